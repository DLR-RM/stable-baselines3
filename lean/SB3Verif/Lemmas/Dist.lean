/-
The ℝ instance of `TScalar` (model: `SB3Verif/Model/Dist.lean`), and what each formula of the model is
over ℝ.  The theorems of `Props/C14.lean` are statements about the *same* generic definitions the driver
executes at `Float` / `Float32`, instantiated at ℝ with Mathlib's `Real.exp`, `Real.log`, `Real.tanh`,
`Real.sqrt`.
-/
import SB3Verif.Model.Dist
import Mathlib.Probability.Distributions.Gaussian.Real
import Mathlib.Analysis.SpecialFunctions.Artanh
import Mathlib.Analysis.SpecialFunctions.Trigonometric.DerivHyp
import Mathlib.Analysis.Complex.ExponentialBounds
import Mathlib.MeasureTheory.Function.JacobianOneDim

namespace SB3Verif.Lemmas.Dist

open SB3Verif.Dist
open scoped NNReal

/-- The ℝ instance: Mathlib's real functions; `≤` is decided classically. -/
noncomputable instance instTScalarReal : TScalar ℝ where
  ofNat n := (n : ℝ)
  pi := Real.pi
  exp := Real.exp
  log := Real.log
  tanh := Real.tanh
  sqrt := Real.sqrt
  le a b := decide (a ≤ b)

@[simp] theorem ofNat_real (n : ℕ) : (TScalar.ofNat n : ℝ) = (n : ℝ) := rfl
@[simp] theorem pi_real : (TScalar.pi : ℝ) = Real.pi := rfl
@[simp] theorem exp_real (x : ℝ) : TScalar.exp x = Real.exp x := rfl
@[simp] theorem log_real (x : ℝ) : TScalar.log x = Real.log x := rfl
@[simp] theorem tanh_real (x : ℝ) : TScalar.tanh x = Real.tanh x := rfl
@[simp] theorem sqrt_real (x : ℝ) : TScalar.sqrt x = Real.sqrt x := rfl
@[simp] theorem le_real (a b : ℝ) : TScalar.le a b = decide (a ≤ b) := rfl

@[simp] theorem zero_real : (TScalar.ofNat 0 : ℝ) = 0 := Nat.cast_zero
@[simp] theorem one_real : (TScalar.ofNat 1 : ℝ) = 1 := Nat.cast_one
@[simp] theorem two_real : (TScalar.ofNat 2 : ℝ) = 2 := Nat.cast_ofNat

@[simp] theorem half_real : (half : ℝ) = 1 / 2 := by rw [half, one_real, two_real]

@[simp] theorem sum_real (l : List ℝ) : SB3Verif.Dist.sum l = l.sum := by
  rw [SB3Verif.Dist.sum, zero_real, List.sum_eq_foldr]

@[simp] theorem max'_real (a b : ℝ) : max' a b = max a b := by
  simp only [max', le_real, decide_eq_true_eq, max_def]

@[simp] theorem min'_real (a b : ℝ) : min' a b = min a b := by
  simp only [min', le_real, decide_eq_true_eq, min_def]

@[simp] theorem abs'_real (x : ℝ) : abs' x = |x| := by
  simp only [abs', le_real, zero_real, decide_eq_true_eq]
  split_ifs with h
  · exact (abs_of_nonneg h).symm
  · exact (abs_of_neg (lt_of_not_ge h)).symm

theorem ind_real (b : Bool) : (ind b : ℝ) = if b then 1 else 0 := by
  rw [ind, one_real, zero_real]

@[simp] theorem log1p_real (x : ℝ) : log1p x = Real.log (1 + x) := by
  -- the test `u ≤ 1 ∧ 1 ≤ u` for `u = 1 + x` is `x = 0`
  simp only [log1p, one_real, log_real, le_real, Bool.and_eq_true, decide_eq_true_eq,
    add_sub_cancel_left, ← le_antisymm_iff, add_eq_left]
  split_ifs with h
  · rw [h, add_zero, Real.log_one]
  · rw [mul_div_assoc, div_self h, mul_one]

theorem zipWith3_eq_zipWith_zip {β γ δ ε : Type} (f : β → γ → δ → ε) (b : List β) (c : List γ)
    (d : List δ) : zipWith3 f b c d = List.zipWith (fun p z => f p.1 p.2 z) (b.zip c) d := by
  induction b generalizing c d with
  | nil => simp [zipWith3]
  | cons x b ih => cases c <;> cases d <;> simp [zipWith3, ih]

theorem zipWith3_length {β γ δ ε : Type} (f : β → γ → δ → ε) :
    ∀ (b : List β) (c : List γ) (d : List δ), b.length = c.length → b.length = d.length →
      (zipWith3 f b c d).length = b.length
  | b, c, d, h1, h2 => by
    rw [zipWith3_eq_zipWith_zip, List.length_zipWith, List.length_zip, ← h1, ← h2, min_self, min_self]

theorem zipWith3_map {β γ δ ε ζ : Type} (f : β → γ → δ → ε) (g : ε → ζ) (b : List β) (c : List γ)
    (d : List δ) : (zipWith3 f b c d).map g = zipWith3 (fun x y z => g (f x y z)) b c d := by
  rw [zipWith3_eq_zipWith_zip, zipWith3_eq_zipWith_zip, List.map_zipWith]

theorem sum_map_sub {β : Type} (f g : β → ℝ) (l : List β) :
    (l.map f).sum - (l.map g).sum = (l.map fun x => f x - g x).sum := by
  rw [sub_eq_iff_eq_add, ← List.sum_map_add]
  simp only [sub_add_cancel]

/-- If `g l` maximises `f l` among the arguments satisfying `P`, the list `ls.map g` maximises the sum
`Σ f lᵢ aᵢ` among the lists of such arguments (Bernoulli: the component-wise mode). -/
theorem sum_zipWith_le {β : Type} (f : β → ℝ → ℝ) (g : β → ℝ) (P : ℝ → Prop)
    (h : ∀ l a, P a → f l a ≤ f l (g l)) (ls : List β) (as : List ℝ) (hP : ∀ a ∈ as, P a)
    (hlen : ls.length = as.length) :
    (List.zipWith f ls as).sum ≤ (List.zipWith f ls (ls.map g)).sum := by
  induction ls generalizing as with
  | nil => exact le_of_eq rfl
  | cons l ls ih =>
    cases as with
    | nil => cases hlen
    | cons a as =>
      rw [List.forall_mem_cons] at hP
      exact add_le_add (h l a hP.1) (ih as hP.2 (Nat.succ.inj hlen))

theorem normalLogProb_real (μ σ a : ℝ) :
    normalLogProb μ σ a
      = -(a - μ) ^ 2 / (2 * σ ^ 2) - Real.log σ - Real.log (Real.sqrt (2 * Real.pi)) := by
  simp only [normalLogProb, two_real, log_real, sqrt_real, pi_real, sq]

theorem normalLogProb_self (μ σ : ℝ) :
    normalLogProb μ σ μ = -Real.log σ - Real.log (Real.sqrt (2 * Real.pi)) := by
  rw [normalLogProb_real, sub_self, zero_pow two_ne_zero, neg_zero, zero_div, zero_sub]

theorem normalLogProb_eq_mode_sub (μ σ a : ℝ) :
    normalLogProb μ σ a = normalLogProb μ σ μ - (a - μ) ^ 2 / (2 * σ ^ 2) := by
  rw [normalLogProb_real, normalLogProb_self, neg_div, neg_sub_comm, sub_right_comm]

theorem normalLogProb_le_mode (μ σ a : ℝ) : normalLogProb μ σ a ≤ normalLogProb μ σ μ := by
  rw [normalLogProb_eq_mode_sub μ σ a]
  exact sub_le_self _ (div_nonneg (sq_nonneg _) (mul_nonneg zero_le_two (sq_nonneg σ)))

theorem normalEntropy_real (σ : ℝ) :
    normalEntropy σ = 1 / 2 + 1 / 2 * Real.log (2 * Real.pi) + Real.log σ := by
  simp only [normalEntropy, half_real, two_real, log_real, pi_real]

theorem diagStd_real (s : ℝ) : diagStd s = Real.exp s := by
  rw [diagStd, one_real, one_mul, exp_real]

/-- `σ²` as a non-negative real (the variance argument of Mathlib's Gaussian) -/
noncomputable def nnsq (σ : ℝ) : ℝ≥0 := ⟨σ ^ 2, sq_nonneg σ⟩

@[simp] theorem coe_nnsq (σ : ℝ) : ((nnsq σ : ℝ≥0) : ℝ) = σ ^ 2 := rfl

theorem nnsq_ne_zero {σ : ℝ} (hσ : σ ≠ 0) : nnsq σ ≠ 0 :=
  fun h => pow_ne_zero 2 hσ (congrArg NNReal.toReal h)

theorem exp_normalLogProb (μ σ a : ℝ) (hσ : 0 < σ) :
    Real.exp (normalLogProb μ σ a) = ProbabilityTheory.gaussianPDFReal μ (nnsq σ) a := by
  rw [normalLogProb_real, ProbabilityTheory.gaussianPDFReal, coe_nnsq,
    Real.sqrt_mul Real.two_pi_pos.le, Real.sqrt_sq hσ.le, Real.exp_sub, Real.exp_sub, Real.exp_log hσ,
    Real.exp_log (Real.sqrt_pos.mpr Real.two_pi_pos), div_div, div_eq_inv_mul, mul_comm σ]

theorem gaussLogProb_real (μ logσ a : List ℝ) :
    gaussLogProb μ logσ a
      = (zipWith3 (fun m s x => normalLogProb m (Real.exp s) x) μ logσ a).sum := by
  simp only [gaussLogProb, gaussLogProbTerms, sum_real, diagStd_real]

/-- Only the action must be at least as long as the mean: `zipWith3` cuts both sides alike. -/
theorem gaussLogProb_le_mode (μ logσ a : List ℝ) (h : μ.length ≤ a.length) :
    gaussLogProb μ logσ a ≤ gaussLogProb μ logσ (gaussMode μ) := by
  rw [gaussLogProb_real, gaussLogProb_real, gaussMode]
  induction μ generalizing logσ a with
  | nil => exact le_rfl
  | cons m μ ih =>
    cases logσ with
    | nil => exact le_rfl
    | cons s logσ =>
      cases a with
      | nil => exact absurd h (Nat.not_succ_le_zero _)
      | cons x a =>
        exact add_le_add (normalLogProb_le_mode m _ x) (ih logσ a (Nat.le_of_succ_le_succ h))

theorem gaussEntropy_real (logσ : List ℝ) :
    gaussEntropy logσ = (logσ.map fun s => 1 / 2 + 1 / 2 * Real.log (2 * Real.pi) + s).sum := by
  simp only [gaussEntropy, gaussEntropyTerms, sum_real, normalEntropy_real, diagStd_real, Real.log_exp]

theorem one_sub_tanh_sq (x : ℝ) : 1 - Real.tanh x ^ 2 = 1 / Real.cosh x ^ 2 := by
  have hc : Real.cosh x ^ 2 ≠ 0 := pow_ne_zero 2 (Real.cosh_pos x).ne'
  rw [Real.tanh_eq_sinh_div_cosh, div_pow, one_sub_div hc, Real.cosh_sq_sub_sinh_sq]

theorem hasDerivAt_tanh (x : ℝ) : HasDerivAt Real.tanh (1 - Real.tanh x ^ 2) x := by
  have h := (Real.hasDerivAt_sinh x).div (Real.hasDerivAt_cosh x) (Real.cosh_pos x).ne'
  rw [← sq, ← sq, Real.cosh_sq_sub_sinh_sq, ← one_sub_tanh_sq] at h
  exact h.congr_of_eventuallyEq (Filter.Eventually.of_forall Real.tanh_eq_sinh_div_cosh)

theorem one_sub_tanh_sq_pos (x : ℝ) : 0 < 1 - Real.tanh x ^ 2 := sub_pos.2 (Real.tanh_sq_lt_one x)

/-- `cosh 1 = (e + 1/e) / 2 > (2.7 + 1/3) / 2 > 3/2`, and `1 - tanh² = 1 / cosh²` -/
theorem one_sub_tanh_one_sq_lt : 1 - Real.tanh 1 ^ 2 < 4 / 9 := by
  have he : (2.7 : ℝ) < Real.exp 1 := lt_trans (by norm_num) Real.exp_one_gt_d9
  have hi : (1 / 3 : ℝ) < Real.exp (-1) := by
    rw [Real.exp_neg, ← one_div]
    exact one_div_lt_one_div_of_lt (Real.exp_pos 1) Real.exp_one_lt_three
  have hc : (3 / 2 : ℝ) < Real.cosh 1 := by
    rw [Real.cosh_eq]
    exact lt_trans (by norm_num) (div_lt_div_of_pos_right (add_lt_add he hi) two_pos)
  have h := one_div_lt_one_div_of_lt (by norm_num) (pow_lt_pow_left₀ hc (by norm_num) two_ne_zero)
  rw [one_sub_tanh_sq]
  exact h.trans_eq (by norm_num)

theorem atanh_real {x : ℝ} (hx : x ∈ Set.Ioo (-1 : ℝ) 1) : atanh x = Real.artanh x := by
  rw [atanh, half_real, log1p_real, log1p_real, ← sub_eq_add_neg,
    Real.artanh_eq_half_log (Set.Ioo_subset_Icc_self hx),
    Real.log_div (neg_lt_iff_pos_add'.1 hx.1).ne' (sub_pos.2 hx.2).ne']

theorem clamp_real (lo hi y : ℝ) : clamp lo hi y = min (max y lo) hi := by
  rw [clamp, max'_real, min'_real]

theorem clamp_of_mem {lo hi y : ℝ} (h1 : lo ≤ y) (h2 : y ≤ hi) : clamp lo hi y = y := by
  rw [clamp_real, max_eq_left h1, min_eq_left h2]

theorem tanhInverse_real (eps y : ℝ) :
    tanhInverse eps y = atanh (min (max y (-1 + eps)) (1 - eps)) := by
  rw [tanhInverse, clamp_real, one_real]

theorem tanhInverse_tanh {eps g : ℝ} (h : |Real.tanh g| ≤ 1 - eps) :
    tanhInverse eps (Real.tanh g) = g := by
  rw [tanhInverse_real, neg_add_eq_sub, ← neg_sub, max_eq_left (neg_le_of_abs_le h),
    min_eq_left (le_of_abs_le h), atanh_real ⟨Real.neg_one_lt_tanh g, Real.tanh_lt_one g⟩,
    Real.artanh_tanh]

theorem tanhInverse_of_mem {eps y : ℝ} (heps : 0 < eps) (h1 : -1 + eps ≤ y) (h2 : y ≤ 1 - eps) :
    tanhInverse eps y = Real.artanh y := by
  rw [tanhInverse_real, max_eq_left h1, min_eq_left h2]
  exact atanh_real ⟨(lt_add_of_pos_right _ heps).trans_le h1, h2.trans_lt (sub_lt_self _ heps)⟩

theorem squashCorrection_real (ε a : ℝ) : squashCorrection ε a = Real.log (1 - a ^ 2 + ε) := by
  rw [squashCorrection, one_real, log_real, sq]

theorem bijectorCorrection_real (ε x : ℝ) :
    bijectorCorrection ε x = Real.log (1 - Real.tanh x ^ 2 + ε) :=
  squashCorrection_real ε (Real.tanh x)

theorem squashCorrection_eps (ε a : ℝ) (hε : 0 ≤ ε) (ha : a ^ 2 < 1) :
    squashCorrection ε a - squashCorrection 0 a = Real.log (1 + ε / (1 - a ^ 2)) := by
  have hd : 0 < 1 - a ^ 2 := sub_pos.2 ha
  rw [squashCorrection_real, squashCorrection_real, add_zero,
    ← Real.log_div (add_pos_of_pos_of_nonneg hd hε).ne' hd.ne', add_div, div_self hd.ne']

theorem sum_log_one_add_bounds {β : Type} (l : List β) (t : β → ℝ) (ht : ∀ y ∈ l, 0 ≤ t y) :
    0 ≤ (l.map fun y => Real.log (1 + t y)).sum
      ∧ (l.map fun y => Real.log (1 + t y)).sum ≤ (l.map t).sum :=
  ⟨List.sum_nonneg (List.forall_mem_map.2 fun y hy =>
      Real.log_nonneg (le_add_of_nonneg_right (ht y hy))),
    List.sum_le_sum fun y hy =>
      (Real.log_le_sub_one_of_pos (add_pos_of_pos_of_nonneg one_pos (ht y hy))).trans_eq
        (add_sub_cancel_left _ _)⟩

theorem squashedLogProbG_real (ε : ℝ) (μ logσ a g : List ℝ) :
    squashedLogProbG ε μ logσ a g
      = gaussLogProb μ logσ g - (a.map (squashCorrection ε)).sum := by
  rw [squashedLogProbG, sum_real]

theorem squashedLogProbG_singleton (ε μ logσ a g : ℝ) :
    squashedLogProbG ε [μ] [logσ] [a] [g]
      = normalLogProb μ (Real.exp logσ) g - squashCorrection ε a := by
  rw [squashedLogProbG_real, gaussLogProb_real]
  simp only [zipWith3, List.map_cons, List.map_nil, List.sum_cons, List.sum_nil, add_zero]

theorem logSumExp_real (l : List ℝ) :
    logSumExp l = maxList l + Real.log ((l.map fun x => Real.exp (x - maxList l)).sum) := by
  simp [logSumExp]

theorem sum_map_pos {f : ℝ → ℝ} (hf : ∀ x, 0 < f x) {l : List ℝ} (hl : l ≠ []) : 0 < (l.map f).sum :=
  List.sum_pos _ (List.forall_mem_map.2 fun x _ => hf x) (mt List.map_eq_nil_iff.1 hl)

theorem exp_logSumExp (l : List ℝ) (hl : l ≠ []) :
    Real.exp (logSumExp l) = (l.map Real.exp).sum := by
  rw [logSumExp_real, Real.exp_add, Real.exp_log (sum_map_pos (fun _ => Real.exp_pos _) hl)]
  -- any shift `m` would do, not only the maximum
  generalize maxList l = m
  rw [← List.sum_map_mul_left]
  congr 1
  apply List.map_congr_left
  intro x _
  rw [← Real.exp_add, add_sub_cancel]

theorem catProbs_real (l : List ℝ) :
    catProbs l = l.map fun x => Real.exp (x - logSumExp l) := by
  simp [catProbs, catLogits, Function.comp_def]

theorem catProbs_eq_softmax (l : List ℝ) (hl : l ≠ []) :
    catProbs l = l.map fun x => Real.exp x / (l.map Real.exp).sum := by
  rw [catProbs_real]
  apply List.map_congr_left
  intro x _
  rw [Real.exp_sub, exp_logSumExp l hl]

theorem catProbs_sum (l : List ℝ) (hl : l ≠ []) : (catProbs l).sum = 1 := by
  rw [catProbs_eq_softmax l hl]
  simp only [div_eq_mul_inv]
  rw [List.sum_map_mul_right, mul_inv_cancel₀ (sum_map_pos Real.exp_pos hl).ne']

theorem catLogits_length (l : List ℝ) : (catLogits l).length = l.length := by
  simp [catLogits]

theorem catProbs_length (l : List ℝ) : (catProbs l).length = l.length := by
  rw [catProbs, List.length_map, catLogits_length]

theorem map_range_getElem?_getD {β γ : Type} (L : List β) (d : β) (f : β → γ) :
    ((List.range L.length).map fun i => f (L[i]?.getD d)) = L.map f := by
  apply List.ext_getElem
  · simp
  · intro i _ h2
    rw [List.length_map] at h2
    simp [h2]

theorem argmaxAux_cons_cons (x y : ℝ) (ys : List ℝ) :
    argmaxAux (x :: y :: ys)
      = if (argmaxAux (y :: ys)).2 ≤ x then (0, x)
        else ((argmaxAux (y :: ys)).1 + 1, (argmaxAux (y :: ys)).2) := by
  simp only [argmaxAux, le_real, decide_eq_true_eq]

theorem argmaxAux_spec (l : List ℝ) (hl : l ≠ []) :
    (argmaxAux l).1 < l.length ∧ l[(argmaxAux l).1]? = some (argmaxAux l).2 ∧
      ∀ y ∈ l, y ≤ (argmaxAux l).2 := by
  induction l with
  | nil => exact absurd rfl hl
  | cons x xs ih =>
    cases xs with
    | nil => exact ⟨Nat.one_pos, rfl, fun _ hy => (List.mem_singleton.1 hy).le⟩
    | cons y ys =>
      obtain ⟨h1, h2, h3⟩ := ih (List.cons_ne_nil _ _)
      rw [argmaxAux_cons_cons]
      split_ifs with hle
      · exact ⟨Nat.succ_pos _, rfl, List.forall_mem_cons.2 ⟨le_rfl, fun z hz => (h3 z hz).trans hle⟩⟩
      · exact ⟨Nat.succ_lt_succ h1, h2, List.forall_mem_cons.2 ⟨(lt_of_not_ge hle).le, h3⟩⟩

theorem argmax_lt (l : List ℝ) (hl : l ≠ []) : argmax l < l.length := (argmaxAux_spec l hl).1

theorem le_argmax (l : List ℝ) (hl : l ≠ []) (i : Nat) (hi : i < l.length) :
    l[i] ≤ l[argmax l]'(argmax_lt l hl) := by
  obtain ⟨_, h2, h3⟩ := argmaxAux_spec l hl
  exact (h3 _ (List.getElem_mem hi)).trans_eq (List.getElem?_eq_some_iff.mp h2).2.symm

theorem one_add_exp_pos (x : ℝ) : 0 < 1 + Real.exp x := add_pos one_pos (Real.exp_pos x)

theorem logSigmoid_real (x : ℝ) : logSigmoid x = -Real.log (1 + Real.exp (-x)) := by
  simp only [logSigmoid, min'_real, zero_real, log1p_real, exp_real, abs'_real]
  rcases le_or_gt 0 x with h | h
  · rw [min_eq_right h, abs_of_nonneg h, zero_sub]
  · have h1 : (1 : ℝ) + Real.exp (-x) = Real.exp (-x) * (1 + Real.exp x) := by
      rw [mul_add, mul_one, ← Real.exp_add, neg_add_cancel, Real.exp_zero, add_comm]
    rw [min_eq_left h.le, abs_of_neg h, neg_neg, h1,
      Real.log_mul (Real.exp_pos _).ne' (one_add_exp_pos x).ne', Real.log_exp, neg_add, neg_neg,
      sub_eq_add_neg]

theorem sigmoid_real (x : ℝ) : sigmoid x = 1 / (1 + Real.exp (-x)) := by
  rw [sigmoid, one_real, exp_real]

theorem sigmoid_pos (x : ℝ) : 0 < sigmoid x := by
  rw [sigmoid_real]
  exact one_div_pos.2 (one_add_exp_pos _)

theorem sigmoid_lt_one (x : ℝ) : sigmoid x < 1 := by
  rw [sigmoid_real, div_lt_one (one_add_exp_pos _)]
  exact lt_add_of_pos_right 1 (Real.exp_pos _)

theorem log_sigmoid (x : ℝ) : Real.log (sigmoid x) = logSigmoid x := by
  rw [sigmoid_real, logSigmoid_real, one_div, Real.log_inv]

theorem log_one_sub_sigmoid (x : ℝ) : Real.log (1 - sigmoid x) = -x + logSigmoid x := by
  rw [sigmoid_real, one_sub_div (one_add_exp_pos _).ne', add_sub_cancel_left, logSigmoid_real,
    Real.log_div (Real.exp_pos _).ne' (one_add_exp_pos _).ne', Real.log_exp, sub_eq_add_neg]

theorem bernLogProb1_real (l a : ℝ) : bernLogProb1 l a = logSigmoid l - (1 - a) * l := by
  rw [bernLogProb1, one_real, neg_sub]

theorem sigmoid_le_half_iff (l : ℝ) : sigmoid l ≤ 1 / 2 ↔ l ≤ 0 := by
  rw [sigmoid_real, one_div_le_one_div (one_add_exp_pos (-l)) two_pos, ← one_add_one_eq_two,
    add_le_add_iff_left, Real.one_le_exp_iff, neg_nonneg]

theorem bernModeB_real (l : ℝ) : bernModeB l = decide (0 < l) := by
  simp only [bernModeB, le_real, half_real, sigmoid_le_half_iff]
  simp only [← not_le, decide_not]

theorem bernLogProb1_le_mode (l a : ℝ) (ha : a = 0 ∨ a = 1) :
    bernLogProb1 l a ≤ bernLogProb1 l (ind (bernModeB l)) := by
  rw [bernLogProb1_real, bernLogProb1_real, bernModeB_real, ind_real]
  apply sub_le_sub_left
  by_cases h : 0 < l
  · rw [decide_eq_true h, if_pos rfl, sub_self, zero_mul]
    rcases ha with rfl | rfl
    · rw [sub_zero, one_mul]; exact h.le
    · rw [sub_self, zero_mul]
  · rw [decide_eq_false h, if_neg Bool.false_ne_true, sub_zero, one_mul]
    rcases ha with rfl | rfl
    · rw [sub_zero, one_mul]
    · rw [sub_self, zero_mul]; exact not_lt.1 h

theorem bernEntropy1_real (l : ℝ) :
    bernEntropy1 l = -(sigmoid l * Real.log (sigmoid l)
        + (1 - sigmoid l) * Real.log (1 - sigmoid l)) := by
  rw [log_sigmoid, log_one_sub_sigmoid, bernEntropy1, one_real]
  ring

theorem gsdeStd1_exp (ε x : ℝ) : gsdeStd1 false ε x = Real.exp x := by
  simp [gsdeStd1]

theorem gsdeStd1_expln (ε x : ℝ) :
    gsdeStd1 true ε x = if x ≤ 0 then Real.exp x else Real.log (1 + (x + ε)) + 1 := by
  simp only [gsdeStd1, if_true, le_real, ofNat_real, Nat.cast_zero, Nat.cast_one, exp_real,
    log1p_real, ind_real]
  -- of the masks `ind (x ≤ 0)`, `ind (x > 0)` one is `1` and the other `0`: one summand survives
  by_cases h : x ≤ 0 <;> simp [h]

theorem zipWith_ofFn {β γ δ : Type} {k : ℕ} (f : β → γ → δ) (a : Fin k → β) (b : Fin k → γ) :
    List.zipWith f (List.ofFn a) (List.ofFn b) = List.ofFn fun i => f (a i) (b i) := by
  apply List.ext_getElem <;> simp

theorem vecMat_ofFn {k n : ℕ} (v : Fin k → ℝ) (M : Fin k → Fin n → ℝ) :
    vecMat (List.ofFn v) (List.ofFn fun i => List.ofFn (M i)) n
      = List.ofFn fun j : Fin n => ∑ i, v i * M i j := by
  rw [vecMat, List.ofFn_eq_map (f := fun j : Fin n => ∑ i, v i * M i j),
    ← List.map_coe_finRange_eq_range, List.map_map]
  refine List.map_congr_left fun j _ => ?_
  rw [Function.comp_apply, sum_real, zipWith_ofFn, List.sum_ofFn]
  refine Finset.sum_congr rfl fun i _ => ?_
  simp [List.getD_eq_getElem?_getD]

theorem splitBy_length {α : Type} : ∀ (nvec : List Nat) (l : List α), (splitBy nvec l).length = nvec.length
  | [], _ => rfl
  | _ :: ns, l => by simp [splitBy, splitBy_length ns]

/-- `th.split` cuts the row into consecutive blocks of the requested sizes -/
theorem splitBy_append {α : Type} (n : Nat) (ns : List Nat) (b rest : List α) (hb : b.length = n) :
    splitBy (n :: ns) (b ++ rest) = b :: splitBy ns rest := by
  simp [splitBy, ← hb]

theorem multiLogProbAux_nil {α : Type} [Add α] [Sub α] [Mul α] [Div α] [Neg α] [TScalar α] :
    multiLogProbAux ([] : List (List α)) [] = some [] := rfl

theorem multiLogProbAux_cons_eq (b : List ℝ) (bs : List (List ℝ)) (a : Nat) (as : List Nat) :
    multiLogProbAux (b :: bs) (a :: as)
      = (catLogProb b a).bind fun x => (multiLogProbAux bs as).map (x :: ·) := by
  rw [multiLogProbAux]
  cases catLogProb b a <;> cases multiLogProbAux bs as <;> rfl

theorem multiLogProbAux_cons_some {b : List ℝ} {bs : List (List ℝ)} {a : Nat} {as : List Nat}
    {r : List ℝ} :
    multiLogProbAux (b :: bs) (a :: as) = some r
      ↔ ∃ x, catLogProb b a = some x ∧ ∃ r', multiLogProbAux bs as = some r' ∧ x :: r' = r := by
  rw [multiLogProbAux_cons_eq]
  simp only [Option.bind_eq_some_iff, Option.map_eq_some_iff]

theorem multiLogProbAux_length : ∀ (bs : List (List ℝ)) (as : List Nat) (r : List ℝ),
    multiLogProbAux bs as = some r → bs.length = as.length ∧ r.length = bs.length
  | bs, as, r, h => by
    induction bs generalizing as r with
    | nil => cases as <;> cases h; exact ⟨rfl, rfl⟩
    | cons b bs ih =>
      cases as with
      | nil => cases h
      | cons a as =>
        obtain ⟨x, _, r', h2, rfl⟩ := multiLogProbAux_cons_some.1 h
        exact ⟨congrArg Nat.succ (ih as r' h2).1, congrArg Nat.succ (ih as r' h2).2⟩

/-- all index tuples of the product space `∏ₖ {0..nvecₖ-1}` -/
def tuples : List Nat → List (List Nat)
  | [] => [[]]
  | n :: ns => (List.range n).flatMap fun i => (tuples ns).map fun t => i :: t

/-- joint log-probability of a tuple (0 outside the support; never used there) -/
noncomputable def jointLogProb (bs : List (List ℝ)) (a : List Nat) : ℝ :=
  ((multiLogProbAux bs a).map List.sum).getD 0

theorem multiLogProbAux_of_mem_tuples (bs : List (List ℝ)) (a : List Nat)
    (h : a ∈ tuples (bs.map List.length)) : ∃ r, multiLogProbAux bs a = some r := by
  induction bs generalizing a with
  | nil =>
    rw [List.map_nil, tuples, List.mem_singleton] at h
    exact ⟨[], h ▸ rfl⟩
  | cons b bs ih =>
    simp only [List.map_cons, tuples, List.mem_flatMap, List.mem_range, List.mem_map] at h
    obtain ⟨i, hi, t, ht, rfl⟩ := h
    obtain ⟨r, hr⟩ := ih t ht
    exact ⟨_, multiLogProbAux_cons_some.2
      ⟨_, List.getElem?_eq_getElem (hi.trans_eq (catLogits_length b).symm), r, hr, rfl⟩⟩

theorem jointLogProb_cons (b : List ℝ) (bs : List (List ℝ)) (i : Nat) (t : List Nat)
    (hi : i < b.length) (ht : t ∈ tuples (bs.map List.length)) :
    Real.exp (jointLogProb (b :: bs) (i :: t))
      = Real.exp ((catLogProb b i).getD 0) * Real.exp (jointLogProb bs t) := by
  obtain ⟨r, hr⟩ := multiLogProbAux_of_mem_tuples bs t ht
  rw [jointLogProb, jointLogProb, multiLogProbAux_cons_eq, hr, catLogProb,
    List.getElem?_eq_getElem (hi.trans_eq (catLogits_length b).symm), ← Real.exp_add]
  simp only [Option.bind_some, Option.map_some, Option.getD_some, List.sum_cons]

open MeasureTheory ProbabilityTheory Set in
/-- density of `tanh ∘ X` for `X ~ N(μ, v)`: `p_X(artanh y) / (1 - y²)` on `(-1, 1)`, `0` elsewhere -/
noncomputable def squashedPDFReal (μ : ℝ) (v : ℝ≥0) (y : ℝ) : ℝ :=
  if y ∈ Ioo (-1 : ℝ) 1 then gaussianPDFReal μ v (Real.artanh y) / (1 - y ^ 2) else 0

open MeasureTheory ProbabilityTheory Set in
theorem map_tanh_gaussianReal (μ : ℝ) {v : ℝ≥0} (hv : v ≠ 0) :
    (gaussianReal μ v).map Real.tanh
      = volume.withDensity (fun y => ENNReal.ofReal (squashedPDFReal μ v y)) := by
  have hmeas : Measurable Real.tanh :=
    (continuous_iff_continuousAt.mpr fun x => (hasDerivAt_tanh x).continuousAt).measurable
  ext t ht
  rw [Measure.map_apply hmeas ht, gaussianReal_apply μ hv, withDensity_apply _ ht]
  -- the density vanishes outside `(-1, 1)`, the range of `tanh`; inside, change variables `y = tanh x`
  have hR : ∫⁻ y in t, ENNReal.ofReal (squashedPDFReal μ v y)
      = ∫⁻ y in t ∩ Ioo (-1) 1, ENNReal.ofReal (squashedPDFReal μ v y) := by
    rw [← lintegral_inter_add_sdiff _ t (measurableSet_Ioo (a := (-1 : ℝ)) (b := 1))]
    have h0 : ∫⁻ y in t \ Ioo (-1) 1, ENNReal.ofReal (squashedPDFReal μ v y) = 0 := by
      refine setLIntegral_eq_zero (ht.diff measurableSet_Ioo) fun y hy => ?_
      rw [squashedPDFReal, if_neg hy.2, ENNReal.ofReal_zero]
      rfl
    rw [h0, add_zero]
  rw [hR, ← Real.tanh_bijOn.image_eq, image_univ, ← image_preimage_eq_inter_range,
    lintegral_image_eq_lintegral_abs_deriv_mul (hmeas ht)
      (fun x _ => (hasDerivAt_tanh x).hasDerivWithinAt) Real.tanh_injective.injOn]
  refine setLIntegral_congr_fun (hmeas ht) fun x _ => ?_
  have hpos := one_sub_tanh_sq_pos x
  rw [squashedPDFReal, if_pos ⟨Real.neg_one_lt_tanh x, Real.tanh_lt_one x⟩, Real.artanh_tanh,
    abs_of_pos hpos, ← ENNReal.ofReal_mul hpos.le, ← mul_div_assoc, mul_div_cancel_left₀ _ hpos.ne',
    gaussianPDF]

open MeasureTheory ProbabilityTheory in
theorem integral_sq_sub_mean_gaussianReal (μ : ℝ) (v : ℝ≥0) :
    ∫ x, (x - μ) ^ 2 ∂(gaussianReal μ v) = v := by
  have h := variance_fun_id_gaussianReal (μ := μ) (v := v)
  rw [variance_eq_integral measurable_id'.aemeasurable] at h
  simpa only [integral_id_gaussianReal] using h

open MeasureTheory ProbabilityTheory in
theorem normalEntropy_eq_differential (μ σ : ℝ) (hσ : 0 < σ) :
    normalEntropy σ
      = -∫ x, Real.log (gaussianPDFReal μ (nnsq σ) x) ∂(gaussianReal μ (nnsq σ)) := by
  -- `log p` is the log-probability: its peak value minus the quadratic, whose mean is `σ² / (2σ²)`
  have hlog : (fun x => Real.log (gaussianPDFReal μ (nnsq σ) x))
      = fun x => normalLogProb μ σ μ - (x - μ) ^ 2 / (2 * σ ^ 2) := funext fun x => by
    rw [← exp_normalLogProb μ σ x hσ, Real.log_exp, normalLogProb_eq_mode_sub]
  have hint : Integrable (fun x => (x - μ) ^ 2) (gaussianReal μ (nnsq σ)) :=
    ((memLp_id_gaussianReal 2).sub (memLp_const μ)).integrable_sq
  rw [hlog, integral_sub (integrable_const _) (hint.div_const _), integral_const, integral_div,
    integral_sq_sub_mean_gaussianReal, probReal_univ, one_smul, coe_nnsq,
    div_mul_cancel_right₀ (pow_ne_zero 2 hσ.ne'), normalLogProb_self, normalEntropy_real,
    Real.log_sqrt Real.two_pi_pos.le]
  ring

open MeasureTheory ProbabilityTheory in
theorem map_finsetSum_gaussianReal {Ω ι : Type*} [MeasurableSpace Ω] {P : Measure Ω}
    [IsProbabilityMeasure P] [DecidableEq ι] (X : ι → Ω → ℝ) (m : ι → ℝ) (v : ι → ℝ≥0)
    (hX : ∀ i, Measurable (X i)) (hind : iIndepFun X P)
    (hlaw : ∀ i, P.map (X i) = gaussianReal (m i) (v i)) (s : Finset ι) :
    P.map (∑ i ∈ s, X i) = gaussianReal (∑ i ∈ s, m i) (∑ i ∈ s, v i) := by
  induction s using Finset.induction_on with
  | empty =>
    simp only [Finset.sum_empty, gaussianReal_zero_var]
    exact Measure.map_const P 0 |>.trans (by simp)
  | insert a s ha ih =>
    rw [Finset.sum_insert ha, Finset.sum_insert ha, Finset.sum_insert ha]
    exact gaussianReal_add_gaussianReal_of_indepFun
      (hind.indepFun_finsetSum_of_notMem hX ha).symm (hlaw a) ih

open MeasureTheory ProbabilityTheory in
theorem map_affine_comb_gaussianReal {Ω : Type*} [MeasurableSpace Ω] {P : Measure Ω}
    [IsProbabilityMeasure P] {k : ℕ} (c : ℝ) (l m : Fin k → ℝ) (v : Fin k → ℝ≥0)
    (X : Fin k → Ω → ℝ) (hX : ∀ i, Measurable (X i)) (hind : iIndepFun X P)
    (hlaw : ∀ i, P.map (X i) = gaussianReal (m i) (v i)) :
    P.map (fun ω => c + ∑ i, l i * X i ω)
      = gaussianReal (c + ∑ i, l i * m i) (∑ i, nnsq (l i) * v i) := by
  have hY : ∀ i, Measurable (fun ω => l i * X i ω) := fun i => (hX i).const_mul (l i)
  have hlawY : ∀ i, P.map (fun ω => l i * X i ω) = gaussianReal (l i * m i) (nnsq (l i) * v i) :=
    fun i => by
      have h := gaussianReal_map_const_mul (μ := m i) (v := v i) (l i)
      rwa [← hlaw i, Measure.map_map (measurable_const_mul (l i)) (hX i)] at h
  have hsum := map_finsetSum_gaussianReal _ _ _ hY
    (hind.comp (fun i x => l i * x) fun i => measurable_const_mul (l i)) hlawY Finset.univ
  rw [Finset.sum_fn] at hsum
  have hm : Measurable fun ω => ∑ i, l i * X i ω := Finset.measurable_sum _ fun i _ => hY i
  refine (Measure.map_map (measurable_const_add c) hm).symm.trans ?_
  rw [hsum, gaussianReal_map_const_add, add_comm]

end SB3Verif.Lemmas.Dist
