/-
C19 — No aliasing between the library and its callers.

Property theorems only (helper lemmas: `SB3Verif/Lemmas/Ownership.lean`). All statements are about the
executable ownership model `SB3Verif/Model/Ownership.lean` (heap machine, value machine) and the mode
table `SB3Verif/Model/ApiModes.lean`, which the driver `SB3Verif/Driver/C19.lean` runs and prints.

What is proved: for EVERY caller program (any number of object creations, caller writes and library
calls, any handles) whose library calls use copy-discipline instructions only, the heap machine
behaves exactly like the value machine in which nothing can be shared (`discipline_refines_values`),
hence (1) objects the caller holds change only by the caller's own writes, (2) every library result
is the value-machine result — a function of the library's cell values and the argument values at call
time —, (3) removing every caller write to an object that is not handed in again changes no result
(`discipline_noninterference`). Converse witnesses (`alias_breaks_it_*`): one aliasing instruction
suffices to break each part. The table rows and all wrapper stacks over them are copy-discipline
(`table_rows_disciplined`, `wrapper_stacks_disciplined`), with no exception left: the former finding
K-C19-a (HerReplayBuffer kept the caller's info dicts) was repaired in /repo (cb7b2df) and survives
only as the converse witness `alias_breaks_it_her_infos_by_reference`.

What is NOT proved: that the real calls have the modes of the table. That is MEASURED on the real
objects on every run by `/verif/harness/c19.py` (memory overlap / identity against everything
reachable from the library object, held-object snapshots, twin runs).
-/
import SB3Verif.Lemmas.Ownership
import SB3Verif.Model.ApiModes

namespace SB3Verif.C19

open SB3Verif.Ownership SB3Verif.Ownership.Lemmas

/-- **Refinement**: on every program of copy-discipline calls, with any number `n` of library cells, the
heap machine computes exactly what the address-free value machine computes: same library cell values,
same values of every object the caller holds, same results of every call. -/
theorem discipline_refines_values (n : Nat) (prog : List Step) (h : Disciplined prog) :
    abs (run prog (init n)) = vrun prog (vinit n) :=
  abs_init n ▸ (run_refines prog (init n) (init_sep n) h).2

/-- **Separation is kept**: after any copy-discipline program, library cells and all objects the caller
holds (everything it passed in, everything it got back) are pairwise different allocated objects — no
result is a library cell, an argument, or an earlier result. -/
theorem discipline_keeps_separation (n : Nat) (prog : List Step) (h : Disciplined prog) :
    ((run prog (init n)).slots ++ (run prog (init n)).held).Nodup ∧
      ∀ a ∈ (run prog (init n)).slots ++ (run prog (init n)).held, a < (run prog (init n)).next :=
  (run_refines prog (init n) (init_sep n) h).1

/-- **Non-interference of the copy discipline.** For every program `pre ++ rest` of copy-discipline calls
(`s` = the state after `pre`, an arbitrary reachable state):
1. every object the caller holds in `s` has, after `rest`, the value given by the caller's own writes in
   `rest` alone (`lastWrite`) — no library call changes it;
2. the results of all calls are those of the value machine, where a call's results are a function of the
   library's cell values and of the argument *values at call time*;
3. deleting from `rest` every caller write to an object that is not handed to the library afterwards —
   writes into results, writes into arguments after the call — changes no result of any call. -/
theorem discipline_noninterference (n : Nat) (pre rest : List Step) (hpre : Disciplined pre)
    (hrest : Disciplined rest) :
    (∀ h, h < (run pre (init n)).held.length →
        (heldVals (run rest (run pre (init n)))).getD h 0 =
          lastWrite h rest ((heldVals (run pre (init n))).getD h 0)) ∧
      (run rest (run pre (init n))).trace = (vrun (pre ++ rest) (vinit n)).trace ∧
      (run rest (run pre (init n))).trace = (run (stripDeadWrites rest) (run pre (init n))).trace := by
  have hp := run_refines pre (init n) (init_sep n) hpre
  have hr := (run_refines rest (run pre (init n)) hp.1 hrest).2
  have hs := (run_refines (stripDeadWrites rest) (run pre (init n)) hp.1 (strip_disciplined rest hrest)).2
  refine ⟨fun h hlt => ?_, ?_, ?_⟩
  · have hlt' : h < (heldVals (run pre (init n))).length := by rw [heldVals, List.length_map]; exact hlt
    have := vrun_lastWrite h rest (abs (run pre (init n))) _ (List.getElem?_eq_getElem hlt')
    rw [← hr] at this
    rw [List.getD_eq_getElem?_getD, List.getD_eq_getElem?_getD, List.getElem?_eq_getElem hlt']
    exact congrArg (Option.getD · 0) this
  · rw [vrun_append, ← abs_init, ← hp.2, ← hr]
    rfl
  · exact (congrArg VSt.trace hr).trans ((vrun_strip rest _ _ (agree_refl _ _)).trans (congrArg VSt.trace hs).symm)

/-- One library call, read off part 1: a copy-discipline call leaves every object the caller holds as it is. -/
theorem library_call_preserves_held (n : Nat) (pre : List Step) (hpre : Disciplined pre) (ins : List Instr)
    (args : List Nat) (hins : ins.all Instr.discipline = true) (h : Nat)
    (hlt : h < (run pre (init n)).held.length) :
    (heldVals (step (run pre (init n)) (.call ins args))).getD h 0 = (heldVals (run pre (init n))).getD h 0 :=
  (discipline_noninterference n pre [Step.call ins args] hpre (List.forall_mem_singleton.2 hins)).1 h hlt

/-! ### a non-trivial program meets the hypotheses -/

/-- a copy-discipline program with arguments, stored copies, results and caller writes -/
def demo : List Step :=
  [.new 5, .call [.setSlot 0 (.arg 0), .retFresh (.add (.slot 0) (.const 1))] [0], .write 0 9, .write 1 70,
   .new 3, .call [.stash 0, .retFreshStash (.add (.slot 0) (.arg 0))] [2], .call [.retFresh (.slot 0)] []]

example : Disciplined demo := by decide

-- `decide +kernel` here and below: the closed term is evaluated once, by the kernel, not by the elaborator first
example : (run demo (init 2)).trace = [[6], [8], [5]] := by decide +kernel

example : (heldVals (run demo (init 2))) = [9, 70, 3, 8, 5] := by decide +kernel

example : stripDeadWrites demo ≠ demo := by decide +kernel

/-- **sharesInternal breaks (1)** (the shape of F-C19-a: `VecFrameStack` returned its window): the library
returns its own cell; the next call overwrites the object the caller still holds. -/
theorem alias_breaks_it_shares_internal_held_changes :
    let prog := [Step.call [.setSlot 0 (.const 1), .retSlot 0] [], Step.call [.setSlot 0 (.const 2)] []]
    (∀ st ∈ prog, ∀ i ∈ (match st with | .call ins _ => ins | _ => []), i = Instr.retSlot 0 ∨ i.discipline = true) ∧
      (heldVals (run prog (init 1))).getD 0 0 ≠ lastWrite 0 prog 1 ∧
      (heldVals (run (prog.take 1) (init 1))).getD 0 0 = 1 := by
  decide +kernel

/-- **sharesInternal breaks (3)**: writing into a returned object changes a later result. -/
theorem alias_breaks_it_shares_internal_write_leaks :
    let prog := [Step.call [.retSlot 0] [], Step.write 0 77, Step.call [.retFresh (.slot 0)] []]
    (run prog (init 1)).trace ≠ (run (stripDeadWrites prog) (init 1)).trace ∧
      stripDeadWrites prog = [Step.call [.retSlot 0] [], Step.call [.retFresh (.slot 0)] []] := by
  decide +kernel

/-- **storedByRef breaks (2)**: the library keeps the argument object; a later caller write to it changes a
later result, which therefore is not a function of the values passed at call time. -/
theorem alias_breaks_it_stored_by_ref :
    let prog := [Step.new 5, Step.call [.aliasSlot 0 0] [0], Step.write 0 9, Step.call [.retFresh (.slot 0)] []]
    (run prog (init 1)).trace = [[], [9]] ∧ (vrun prog (vinit 1)).trace = [[], [5]] ∧
      (run (stripDeadWrites prog) (init 1)).trace = [[], [5]] := by
  decide +kernel

/-- **mutated breaks (1)** (the shape of F-C19-b: `DictReplayBuffer.add` rebound entries of the caller's
dict): the library writes into the argument; the caller's object changed without a caller write. -/
theorem alias_breaks_it_mutated :
    let prog := [Step.new 5, Step.call [.writeArg 0 (.const 7)] [0]]
    (heldVals (run prog (init 1))).getD 0 0 = 7 ∧ lastWrite 0 (prog.drop 1) 5 = 5 := by
  decide +kernel

/-- **sharesArg breaks (1)**: the result is the argument object; a caller write to the argument changes the
result object the caller holds under another handle. -/
theorem alias_breaks_it_shares_arg :
    let prog := [Step.new 5, Step.call [.retArg 0] [0], Step.write 0 9]
    (heldVals (run prog (init 1))).getD 1 0 = 9 ∧ lastWrite 1 (prog.drop 2) 5 = 5 := by
  decide +kernel

/-- compiling a copy-discipline signature gives copy-discipline instructions -/
theorem compile_discipline (sig : Sig) (h : sig.discipline = true) : (compile sig).all Instr.discipline = true :=
  (compile_all sig).trans h

/-- every row of the table that lies inside the sentence of the property follows the copy discipline
(no exceptions) -/
theorem table_rows_disciplined :
    ∀ r ∈ apiRows, r.inStatement = true → r.sig.discipline = true := by
  decide +kernel

/-- the list of recorded exceptions is empty -/
theorem table_has_no_exceptions : exceptions = [] := rfl

/-- every wrapper of the table is clean: it neither writes through nor keeps alive the actions, and never
hands out its own state -/
theorem table_layers_clean : ∀ L ∈ apiLayers, L.clean = true := by
  decide +kernel

/-- **all wrapper stacks**: over a copy-discipline base row, ANY list of clean wrappers (any order, any
depth, repetitions) gives a copy-discipline `reset`/`step` signature. -/
theorem wrapper_stacks_disciplined (base : Row) (hb : base.sig.discipline = true) (layers : List Layer)
    (hl : ∀ L ∈ layers, L.clean = true) (call : String) :
    (stackRow base layers call).sig.discipline = true := by
  induction layers generalizing base with
  | nil => exact hb
  | cons L Ls ih =>
    obtain ⟨hL, hLs⟩ := List.forall_mem_cons.1 hl
    exact ih _ (applyLayer_discipline call hb hL) hLs

/-- the stacks the harness builds: both base VecEnvs of the table are copy-discipline rows -/
theorem base_rows_disciplined :
    ∀ r ∈ apiRows, (r.cls = "DummyVecEnv" ∨ r.cls = "SubprocVecEnv") → r.sig.discipline = true := by
  -- the rows outside the sentence of the property are policy helpers and the algorithms as callers, no VecEnv
  intro r hr hcls
  cases hs : r.inStatement with
  | true => exact table_rows_disciplined r hr hs
  | false =>
    have : ∀ r ∈ apiRows, r.inStatement = false → ¬(r.cls = "DummyVecEnv" ∨ r.cls = "SubprocVecEnv") := by decide +kernel
    exact absurd hcls (this r hr hs)

/-- **programs over the table**: every program whose library calls are compiled from copy-discipline
signatures — i.e. from any in-statement table row (`table_rows_disciplined`) and from any wrapper stack
(`wrapper_stacks_disciplined`) — is non-interfering in the sense of `discipline_noninterference`. -/
theorem table_programs_noninterfere (n : Nat) (pre rest : List Step)
    (hpre : ∀ st ∈ pre, ∀ ins hs, st = Step.call ins hs → ∃ sg : Sig, sg.discipline = true ∧ ins = compile sg)
    (hrest : ∀ st ∈ rest, ∀ ins hs, st = Step.call ins hs → ∃ sg : Sig, sg.discipline = true ∧ ins = compile sg) :
    (∀ h, h < (run pre (init n)).held.length →
        (heldVals (run rest (run pre (init n)))).getD h 0 =
          lastWrite h rest ((heldVals (run pre (init n))).getD h 0)) ∧
      (run rest (run pre (init n))).trace = (vrun (pre ++ rest) (vinit n)).trace ∧
      (run rest (run pre (init n))).trace = (run (stripDeadWrites rest) (run pre (init n))).trace := by
  have conv : ∀ p : List Step,
      (∀ st ∈ p, ∀ ins hs, st = Step.call ins hs → ∃ sg : Sig, sg.discipline = true ∧ ins = compile sg) →
      Disciplined p := by
    intro p hp st hst
    cases st with
    | new v => rfl
    | write h v => rfl
    | call ins hs =>
      obtain ⟨sg, hsg, rfl⟩ := hp _ hst ins hs rfl
      exact compile_discipline sg hsg
  exact discipline_noninterference n pre rest (conv pre hpre) (conv rest hrest)

example : ∃ r ∈ apiRows, r.inStatement = true ∧ r.args.length = 6 ∧ r.sig.discipline = true :=
  ⟨_, List.mem_of_getElem? (i := 9) rfl, by decide⟩

/-- **storedByRef at table scale** (the shape of the repaired K-C19-a: `HerReplayBuffer(copy_info_dict=True).add`
kept the caller's info dicts themselves): with the signature the row had before the repair, the program "create
the six arguments, `add`, overwrite `infos`, `sample`" gives a `sample` result that differs from the value
machine's and from the run without the caller's write; the row as it is now is in the table, is copy-discipline, and
the same program over it gives the value machine's results. -/
theorem alias_breaks_it_her_infos_by_reference :
    let sample : Sig := ⟨[], [.fresh]⟩
    let prog (add : Sig) := [Step.new 100, .new 101, .new 102, .new 103, .new 104, .new 105,
                 .call (compile add) [0, 1, 2, 3, 4, 5], .write 5 sentinel, .call (compile sample) []]
    herAddCopyInfoOld.discipline = false ∧
      (run (prog herAddCopyInfoOld) (init nSlots)).trace ≠ (vrun (prog herAddCopyInfoOld) (vinit nSlots)).trace ∧
      (run (prog herAddCopyInfoOld) (init nSlots)).trace ≠
        (run (stripDeadWrites (prog herAddCopyInfoOld)) (init nSlots)).trace ∧
      herAddCopyInfo ∈ apiRows ∧ herAddCopyInfo.sig.discipline = true ∧
      (run (prog herAddCopyInfo.sig) (init nSlots)).trace = (vrun (prog herAddCopyInfo.sig) (vinit nSlots)).trace := by
  intro sample prog
  refine ⟨by decide, by decide +kernel, by decide +kernel, List.mem_of_getElem? (i := 14) rfl, by decide, ?_⟩
  -- the repaired row is copy-discipline, so nothing is left to evaluate: the refinement theorem applies
  exact congrArg VSt.trace (discipline_refines_values nSlots (prog herAddCopyInfo.sig) (by decide))

end SB3Verif.C19
