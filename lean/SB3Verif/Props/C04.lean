/-
C04 — Off-policy collection stores each real transition once, with the true successor.

Property theorems only (helper lemmas: `SB3Verif/Lemmas/OffPolicy.lean`). All statements are about the
executable model `SB3Verif/Model/OffPolicy.lean`, whose definitions the driver `SB3Verif/Driver/C04.lean`
runs against real `SAC` / `TD3` / `DDPG` / `DQN` `learn()` calls.

Reading guide.
* `run cfg calls` executes any number of `learn()` calls (with / without counter reset), each consuming an
  arbitrary external stream (policy outputs, noise, sub-environment answers, `VecNormalize` statistics);
  the result holds the mechanism's state `st` (its `trace`; the replay buffer's add log is `st.buffer`) and
  the sub-environments' own record `w` (what each env had last returned, the action it received, its answer).
* `store_log_eq_env_log*`: the add log equals that record, row by row — full statement without
  `VecNormalize`; with `VecNormalize` the code stores `unnormalize(normalize(terminal observation))`, which is
  the terminal observation only when the clip was inactive (`…_partial`, `normalized_env_stores_raw`);
  otherwise the statement is false of the code (`…_counterexample`, recorded finding K-C04-a).
* an observation wrapper outside `VecNormalize` (`VecTransposeImage`) is any map `cfg.post` applied alike to
  observations and terminal observations; the buffer then holds the wrapped observations. Without `VecNormalize`
  this is covered by the full statement; with `VecNormalize` *below* such a wrapper the code stores
  `get_original_obs()`, the batch before the wrapper (`…_wrapper_counterexample`, finding K-C04-b: the real code
  fails with a shape error), hence the hypothesis `PostTrivialUnderVN`.
* action algebra over an arbitrary ordered field: the stored action lies in `[-1, 1]`, the environment
  received its rescaling, which lies in the box for *every* stored value (`unscale_action` clips, fix 933445d).
-/
import SB3Verif.Lemmas.OffPolicy
import SB3Verif.Props.C04C03
import Mathlib.Tactic.NormNum.Ineq

namespace SB3Verif.C04

open SB3Verif.OffPolicy SB3Verif.Lemmas.OffPolicy SB3Verif.Lemmas.OffPolicyReplay

section Field

variable {α : Type} [Field α] [LinearOrder α] [IsStrictOrderedRing α]

/-- `unscale_action ∘ scale_action = id` on the box. -/
theorem unscale_scale (low high a : α) (h : low < high) (h1 : low ≤ a) (h2 : a ≤ high) :
    unscaleAction low high (scaleAction low high a) = a :=
  Lemmas.OffPolicy.unscale_scale low high a h h1 h2

/-- `scale_action ∘ unscale_action = id` on `[-1, 1]`: the stored action determines the environment's one and
is recovered from it. -/
theorem scale_unscale (low high s : α) (h : low < high) (h1 : -1 ≤ s) (h2 : s ≤ 1) :
    scaleAction low high (unscaleAction low high s) = s :=
  Lemmas.OffPolicy.scale_unscale low high s h h1 h2

/-- The scaled version of an in-bounds action lies in `[-1, 1]`. -/
theorem scale_in_unit (low high a : α) (h : low < high) (h1 : low ≤ a) (h2 : a ≤ high) :
    -1 ≤ scaleAction low high a ∧ scaleAction low high a ≤ 1 :=
  scale_mem low high a h.le h1 h2

/-- **The environment never receives an out-of-bounds action**: for *every* scaled value (in `[-1,1]` or
not) the un-scaled action lies in `[low, high]`. -/
theorem unscale_in_bounds (low high s : α) (h : low ≤ high) :
    low ≤ unscaleAction low high s ∧ unscaleAction low high s ≤ high :=
  unscale_mem low high s h

/-- On `[-1, 1]` the clip in `unscale_action` is inactive: the environment's action is exactly the affine image
`low + 0.5 (s + 1)(high - low)` of the stored one. -/
theorem unscale_affine_on_unit (low high s : α) (h : low ≤ high) (h1 : -1 ≤ s) (h2 : s ≤ 1) :
    unscaleAction low high s = low + (1 / (1 + 1)) * (s + 1) * (high - low) :=
  unscale_eq_raw low high s h h1 h2

/-- **`_sample_action`, Box**: whatever the policy / warm-up output `u` and the noise sample are (right
dimension), the action handed to the environment is the un-scaling of the stored action and lies in the box. -/
theorem env_action_is_unscaled_buffer_action (low high u : List α) (noise : Option (List α))
    (hb : ProperBox low high) (hu : u.length = low.length) (hn : ∀ e, noise = some e → e.length = low.length) :
    (sampleAction1 (.box low high) noise u).1 = map3 unscaleAction low high (sampleAction1 (.box low high) noise u).2 ∧
      InBox low high (sampleAction1 (.box low high) noise u).1 := by
  have hhl : high.length = low.length := (List.Forall₂.length_eq hb).symm
  refine ⟨rfl, ?_⟩
  simp only [sampleAction1]
  apply map3_unscale_inBox low high _ hb
  cases noise with
  | none => exact map3_length _ _ _ _ hhl hu
  | some e =>
    simp only [List.length_zipWith, map3_length _ _ _ _ hhl hu, hn e rfl, Nat.min_self]

/-- **The stored action is normalised**: with action noise it is clipped to `[-1, 1]` whatever the noise; without
noise it is the scaling of the policy's in-bounds action, hence in `[-1, 1]` as well. -/
theorem buffer_action_in_unit (low high u : List α) (noise : Option (List α)) (hb : ProperBox low high)
    (hu : noise = none → InBox low high u) : InUnit (sampleAction1 (.box low high) noise u).2 := by
  simp only [sampleAction1]
  cases noise with
  | none => exact map3_scale_inUnit low high u hb (hu rfl)
  | some e => exact zipWith_addNoise_inUnit _ e

/-- Without action noise the environment receives exactly the policy's (in-bounds) action. -/
theorem env_action_eq_policy_action_without_noise (low high u : List α) (hb : ProperBox low high)
    (hu : InBox low high u) : (sampleAction1 (.box low high) none u).1 = u := by
  simp only [sampleAction1]
  exact map3_unscale_scale low high u hb hu

/-- **Under `VecNormalize` the raw terminal observation is what gets stored as long as no normalised coordinate
was clipped**: `unnormalize_obs (normalize_obs o) = o`. -/
theorem normalized_env_stores_raw (z : Normalizer α) (o : List α) (h : Unclipped z o) :
    z.unnormObs (z.normObs o) = o :=
  unnormCoords_normCoords z.clipObs z.stats o h

/-- … and a coordinate whose normalised value *was* clipped (here: from above) comes back as the clip bound mapped
through the statistics, not as the raw value (the mechanism behind finding K-C04-a). (`hc` is not used.) -/
theorem clipped_coordinate_is_lost (mean sd c x : α) (hc : 0 ≤ c) (h : c < (x - mean) / sd) :
    unnormWith mean sd (normWith mean sd c x) = c * sd + mean := by
  rw [unnormWith, normWith, clip_eq, Lemmas.Interval.min_max_of_ge h.le]

end Field

section Mechanism

variable {α : Type} [Add α] [Sub α] [Mul α] [Div α] [Neg α] [One α] [LT α] [DecidableLT α]

/-- Discrete actions are stored and sent as they are. -/
theorem discrete_action_stored_as_is (noise : Option (List α)) (u : List α) :
    sampleAction1 (ActSpace.discrete : ActSpace α) noise u = (u, u) := rfl

/-- **One loop iteration** (any state, any well-formed external input whose terminal observations survive the
`VecNormalize` round trip): exactly one row is appended; it holds the raw observation the action was computed
from, the sub-environments' own observations as successors (the terminal one where an episode ended — never the
reset observation, and never a stale `terminal_observation` an env's reused info dict still carries from an
earlier episode, `RawStep.staleTerm`; as the outer observation wrapper presents them), the raw rewards,
`done = terminated ∨ truncated`, `timeout = truncated ∧ ¬terminated`; the policy's input was `_last_obs`;
afterwards the raw last observation is the reset observation for finished envs and the new observation
otherwise. -/
theorem one_step_adds_the_true_transition (cfg : Cfg α) (st : St α) (x : StepIn α) (hwf : x.wf cfg = true)
    (hrt : TermRoundTrip x) (hp : PostTrivialUnderVN cfg) :
    (body cfg st x).1.buffer = st.buffer ++ [(body cfg st x).2.row] ∧
    (body cfg st x).2.row.obs = origObs cfg st ∧
    (body cfg st x).2.row.nextObs = x.raws.map (fun r => cfg.post r.obs) ∧
    (body cfg st x).2.row.reward = x.raws.map (·.rew) ∧
    (body cfg st x).2.row.done = x.raws.map (fun r => r.term || r.trunc) ∧
    (body cfg st x).2.row.timeout = x.raws.map (fun r => r.trunc && !r.term) ∧
    (body cfg st x).2.policyInput = st.lastObs ∧
    origObs cfg (body cfg st x).1 = (x.raws.map (fun r => if r.done then r.resetObs else r.obs)).map cfg.post := by
  have sp := body_spec cfg st x hwf hrt hp
  refine ⟨?_, sp.obs, sp.nextObs, sp.reward, ?_, sp.timeout, sp.policyInput, sp.origObsAfter⟩
  · simp only [St.buffer, sp.trace, List.map_append, List.map_cons, List.map_nil]
  · rw [sp.done]; rfl

/-- **Any split into rollouts and `learn()` loops is the same sequence of loop bodies**: whatever
`train_freq` (steps or episodes), `learning_starts`, `total_timesteps` and the counters are, one `learn()` call
applies the loop body to a prefix of the external stream, in order, once each, and leaves the rest untouched. -/
theorem learn_is_fold_of_body (cfg : Cfg α) (s : Sys α) (c : Call α) :
    ∃ pre, pre ++ (runCall cfg s c).2 = c.steps ∧
      (runCall cfg s c).1 = pre.foldl (bodyS cfg) (setupLearn cfg s c).1 := by
  unfold runCall
  exact learnLoop_fold cfg (setupLearn cfg s c).2 (c.steps.length + 1) (setupLearn cfg s c).1 c.steps

/-- **Store log = environment log**, for every `n_envs`, every action space, every `train_freq` /
`learning_starts` / `total_timesteps`, every number of `learn()` calls with or without counter reset, every
external stream (episode scripts mixing termination and truncation, policy outputs, noise) — under the two
hypotheses that concern `VecNormalize` only: terminal observations survive its round trip (`CallRoundTrip`;
discharged by `normalized_env_stores_raw` when nothing was clipped) and there is no observation wrapper above it
(`PostTrivialUnderVN`); both are discharged by `store_log_eq_env_log` when there is no `VecNormalize`:
the sequence of rows added to the replay buffer equals, row by row, the sub-environments' own record
(observation the env had last returned, its own next observation, raw reward, flags), the actions the envs
received are the ones computed next to each stored action, and there is exactly one row per vectorised step. -/
theorem store_log_eq_env_log_partial (cfg : Cfg α) (calls : List (Call α))
    (hwf : ∀ c ∈ calls, c.wf cfg = true) (hrt : ∀ c ∈ calls, CallRoundTrip c) (hp : PostTrivialUnderVN cfg) :
    (run cfg calls).st.buffer.map Row.core = (run cfg calls).w.log.map (specCore cfg.post) ∧
    (run cfg calls).st.trace.map (·.action) = (run cfg calls).w.log.map (fun ts => ts.map (·.action)) ∧
    (run cfg calls).st.buffer.length = (run cfg calls).w.log.length := by
  have hi := inv_run cfg calls hwf hrt hp
  have hrows : (run cfg calls).st.buffer.map Row.core = (run cfg calls).w.log.map (specCore cfg.post) := by
    rw [St.buffer, List.map_map]
    exact hi.rows
  exact ⟨hrows, hi.acts, by rw [St.buffer, List.length_map, hi.trace_length]⟩

/-- **Full statement without `VecNormalize`** (no side condition on the stream; any observation wrapper such as
`VecTransposeImage` on top of the VecEnv). -/
theorem store_log_eq_env_log (cfg : Cfg α) (calls : List (Call α)) (hv : cfg.vecNormalize = false)
    (hwf : ∀ c ∈ calls, c.wf cfg = true) :
    (run cfg calls).st.buffer.map Row.core = (run cfg calls).w.log.map (specCore cfg.post) ∧
    (run cfg calls).st.trace.map (·.action) = (run cfg calls).w.log.map (fun ts => ts.map (·.action)) ∧
    (run cfg calls).st.buffer.length = (run cfg calls).w.log.length :=
  store_log_eq_env_log_partial cfg calls hwf (fun c hc => roundTrip_of_no_vn cfg c hv (hwf c hc))
    (postTrivial_of_no_vn cfg hv)

/-- **The agent acted on the stored observation**: the policy input of every collected step is the row's
(raw) observation — itself without `VecNormalize`, seen through the statistics of that moment with it. -/
theorem policy_input_is_stored_obs (cfg : Cfg α) (calls : List (Call α))
    (hwf : ∀ c ∈ calls, c.wf cfg = true) (hrt : ∀ c ∈ calls, CallRoundTrip c) (hp : PostTrivialUnderVN cfg) :
    ∀ o ∈ (run cfg calls).st.trace, ∃ z : Option (Normalizer α),
      (cfg.vecNormalize = false → z = none) ∧ o.policyInput = viewOf z o.row.obs :=
  (inv_run cfg calls hwf hrt hp).view

/-- **Noise reset index**: after a step, `action_noise.reset` is called exactly for the environments whose
episode ended in that step (and for none when there is no action noise). -/
theorem noise_reset_index (cfg : Cfg α) (st : St α) (x : StepIn α) (i : Nat) :
    i ∈ (body cfg st x).2.noiseReset ↔
      x.noise.isSome = true ∧ (x.raws.map (fun r => r.term || r.trunc))[i]? = some true := by
  show i ∈ (match x.noise with | none => [] | some _ => trueIdx 0 (x.raws.map RawStep.done)) ↔ _
  cases x.noise with
  | none => simp only [List.not_mem_nil, Option.isSome_none, Bool.false_eq_true, false_and]
  | some es =>
    simp only [mem_trueIdx, Nat.zero_add, exists_eq_left', Option.isSome_some, true_and]
    rfl

/-- **Stored action and environment action of a step come from one `_sample_action` call**: for every collected
step there are a noise sample and policy outputs such that the env actions are the first and the stored actions
the second components of `sampleActions` (so `env_action_is_unscaled_buffer_action` applies to every row). -/
theorem stored_and_env_action_paired (cfg : Cfg α) (calls : List (Call α))
    (hwf : ∀ c ∈ calls, c.wf cfg = true) (hrt : ∀ c ∈ calls, CallRoundTrip c) (hp : PostTrivialUnderVN cfg) :
    ∀ o ∈ (run cfg calls).st.trace, ∃ (noise : Option (List (List α))) (us : List (List α)),
      o.action = (sampleActions cfg.space noise us).map (·.1) ∧
      o.row.action = (sampleActions cfg.space noise us).map (·.2) :=
  (inv_run cfg calls hwf hrt hp).paired

/-! ### End to end with the replay buffer of C03 (proved in `Props/C04C03.lean`, re-exported here so that the
axiom audit of this file covers them) -/

/-- see `C04C03.sampled_is_env_transition`: every `(slot, env)` pair that can be sampled from the standard replay
buffer after any off-policy run without `VecNormalize` holds one of the environments' own last-`capacity`
transitions (observation acted on, true successor, raw reward, stored action, masked done). -/
theorem sampled_is_env_transition (T : Tagging α) (cfg : Cfg α) (calls : List (Call α)) (rc : Replay.Cfg)
    (hv : cfg.vecNormalize = false) (hwf : ∀ c ∈ calls, c.wf cfg = true) (hn : rc.nEnvs = cfg.nEnvs)
    (hm : rc.memopt = false) (s e : ℕ)
    (h : (s, e) ∈ (Replay.run rc (toOps T (run cfg calls).st.buffer)).domain) :
    ∃ a ts t o, a < (run cfg calls).w.log.length ∧ (run cfg calls).w.log.length ≤ a + rc.cap ∧ a % rc.cap = s ∧
      e < cfg.nEnvs ∧
      (run cfg calls).w.log[a]? = some ts ∧ ts[e]? = some t ∧
      (run cfg calls).st.trace[a]? = some o ∧ o.action[e]? = some t.action ∧
      ((Replay.run rc (toOps T (run cfg calls).st.buffer)).get s e).obs = T.obs (cfg.post t.obs) ∧
      ((Replay.run rc (toOps T (run cfg calls).st.buffer)).get s e).next = T.obs (cfg.post t.next) ∧
      ((Replay.run rc (toOps T (run cfg calls).st.buffer)).get s e).rew = T.rew t.rew ∧
      ((Replay.run rc (toOps T (run cfg calls).st.buffer)).get s e).act = T.act (o.row.action.getD e []) ∧
      ((Replay.run rc (toOps T (run cfg calls).st.buffer)).get s e).done =
        if (t.term || t.trunc) && !(rc.hto && (t.trunc && !t.term)) then 1 else 0 :=
  C04C03.sampled_is_env_transition T cfg calls rc hv hwf hn hm s e h

/-- see `C04C03.recent_env_transition_is_drawable`: each of the last `capacity` vectorised steps, each env, can be
sampled. -/
theorem recent_env_transition_is_drawable (T : Tagging α) (cfg : Cfg α) (calls : List (Call α)) (rc : Replay.Cfg)
    (hv : cfg.vecNormalize = false) (hwf : ∀ c ∈ calls, c.wf cfg = true) (hn : rc.nEnvs = cfg.nEnvs)
    (hm : rc.memopt = false) (a e : ℕ) (ha : a < (run cfg calls).w.log.length)
    (hr : (run cfg calls).w.log.length ≤ a + rc.cap) (he : e < cfg.nEnvs) :
    (a % rc.cap, e) ∈ (Replay.run rc (toOps T (run cfg calls).st.buffer)).domain :=
  C04C03.recent_env_transition_is_drawable T cfg calls rc hv hwf hn hm a e ha hr he

/-- see `C04C03.sampled_is_env_transition_memopt_partial`: the memory-optimised variant under the chaining
hypothesis — own successor for non-terminal transitions and the newest one (K-C03-a otherwise). -/
theorem sampled_is_env_transition_memopt_partial (T : Tagging α) (cfg : Cfg α) (calls : List (Call α))
    (rc : Replay.Cfg) (hv : cfg.vecNormalize = false) (hwf : ∀ c ∈ calls, c.wf cfg = true)
    (hn : rc.nEnvs = cfg.nEnvs) (hm : rc.memopt = true)
    (hch : Replay.Chained ((run cfg calls).st.buffer.map (toRow T))) (s e : ℕ)
    (h : (s, e) ∈ (Replay.run rc (toOps T (run cfg calls).st.buffer)).domain) :
    ∃ a ts t o, a < (run cfg calls).w.log.length ∧ (run cfg calls).w.log.length < a + rc.cap ∧ a % rc.cap = s ∧
      e < cfg.nEnvs ∧
      (run cfg calls).w.log[a]? = some ts ∧ ts[e]? = some t ∧
      (run cfg calls).st.trace[a]? = some o ∧ o.action[e]? = some t.action ∧
      ((Replay.run rc (toOps T (run cfg calls).st.buffer)).get s e).obs = T.obs (cfg.post t.obs) ∧
      ((Replay.run rc (toOps T (run cfg calls).st.buffer)).get s e).rew = T.rew t.rew ∧
      ((Replay.run rc (toOps T (run cfg calls).st.buffer)).get s e).act = T.act (o.row.action.getD e []) ∧
      ((Replay.run rc (toOps T (run cfg calls).st.buffer)).get s e).done =
        (if (t.term || t.trunc) && !(rc.hto && (t.trunc && !t.term)) then 1 else 0) ∧
      ((t.term || t.trunc) = false ∨ a + 1 = (run cfg calls).w.log.length →
        ((Replay.run rc (toOps T (run cfg calls).st.buffer)).get s e).next = T.obs (cfg.post t.next)) :=
  C04C03.sampled_is_env_transition_memopt_partial T cfg calls rc hv hwf hn hm hch s e h

end Mechanism

/-! ## `VecNormalize`: without the two hypotheses the statement is false of the code (K-C04-a, K-C04-b) -/

/-- **Counterexample to the statement without the round-trip hypothesis** (K-C04-a): the stream is well-formed
and there is no outer wrapper, yet the stored successor is `unnormalize(clip(normalize 500)) = 1`, not the
terminal observation `500` the environment produced. -/
theorem store_log_eq_env_log_counterexample :
    ¬ ∀ (cfg : Cfg ℚ) (calls : List (Call ℚ)), (∀ c ∈ calls, c.wf cfg = true) → PostTrivialUnderVN cfg →
      (run cfg calls).st.buffer.map Row.core = (run cfg calls).w.log.map (specCore cfg.post) := by
  intro h
  have h1 := h witnessCfg witnessCalls (by decide +kernel) (fun _ _ => rfl)
  have h2 : ((run witnessCfg witnessCalls).st.buffer.map Row.core).map (·.nextObs) = [[[1]]] := by decide +kernel
  have h3 : ((run witnessCfg witnessCalls).w.log.map (specCore witnessCfg.post)).map (·.nextObs) = [[[500]]] := by
    decide +kernel
  rw [h1, h3] at h2
  exact absurd h2 (by decide)

/-- **Counterexample to the statement without `PostTrivialUnderVN`** (K-C04-b): `VecNormalize` below a wrapper
that re-orders the coordinates (`VecTransposeImage`); nothing is clipped (nothing is even normalised), the stream
is well-formed, yet the stored observation is `get_original_obs()` — the batch *before* the wrapper, `[1, 2]` —
while the buffer's observation space (and the policy) have the wrapped layout `[2, 1]`. In the real code the two
layouts have different shapes and `replay_buffer.add` raises. -/
theorem store_log_eq_env_log_wrapper_counterexample :
    ¬ ∀ (cfg : Cfg ℚ) (calls : List (Call ℚ)), (∀ c ∈ calls, c.wf cfg = true) → (∀ c ∈ calls, CallRoundTrip c) →
      (run cfg calls).st.buffer.map Row.core = (run cfg calls).w.log.map (specCore cfg.post) := by
  intro h
  have h1 := h wrapCfg wrapCalls (by decide +kernel)
    (fun c hc => callRoundTrip_of_check c (by revert c; decide +kernel))
  have h2 : ((run wrapCfg wrapCalls).st.buffer.map Row.core).map (·.obs) = [[[1, 2]]] := by decide +kernel
  have h3 : ((run wrapCfg wrapCalls).w.log.map (specCore wrapCfg.post)).map (·.obs) = [[[2, 1]]] := by
    decide +kernel
  rw [h1, h3] at h2
  exact absurd h2 (by decide)

/-- Everything else in that row is right: observation, reward and flags are the environment's. -/
theorem counterexample_only_successor_differs :
    ((run witnessCfg witnessCalls).st.buffer.map fun r => (r.obs, r.reward, r.done, r.timeout)) =
      ((run witnessCfg witnessCalls).w.log.map (specCore witnessCfg.post)).map
        fun c => (c.obs, c.reward, c.done, c.timeout) := by
  decide +kernel

/-! ## Non-vacuity: the hypotheses are met by concrete non-trivial data -/

/-- a proper asymmetric box, an in-bounds action, a noise sample -/
example : ProperBox ([-2, 1/2] : List ℚ) [6, 3/2] := by
  unfold ProperBox
  exact .cons (by norm_num) (.cons (by norm_num) .nil)

example : InBox ([-2, 1/2] : List ℚ) [6, 3/2] [6, 1] := by
  unfold InBox
  exact .cons (by norm_num) (.cons (by norm_num) .nil)

/-- `[-2, 6]`: the action `6` is stored as `1`, noise `+1/2` is clipped away, the env receives `6` -/
example : sampleAction1 (.box ([-2] : List ℚ) [6]) (some [1/2]) [6] = ([6], [1]) := by decide +kernel

example : sampleAction1 (.box ([-2] : List ℚ) [6]) (some [-1/2]) [2] = ([0], [-1/2]) := by decide +kernel

/-- an unclipped terminal observation under non-trivial statistics -/
example : Unclipped (⟨[some (2, 4), none], 3, none, 10⟩ : Normalizer ℚ) [10, 77] := by
  simp only [Unclipped, CoordsUnclipped]
  norm_num

/- `exCfg`, `exNz`, `exCalls` (defined in `Lemmas/OffPolicy.lean`): two envs, box actions in `[-2, 6]` with noise,
two `learn()` calls (the second without counter reset), `VecNormalize` (mean 100, sd 50, clip 10, reward
normalisation on), a truncation in env 1, a termination in env 0 and a `terminated ∧ truncated` end in env 1: the
stream is well-formed and the terminal observations are unclipped, so `store_log_eq_env_log_partial` applies; the
three rows are the environments' transitions. -/
example : ∀ c ∈ exCalls, c.wf exCfg = true := by decide +kernel

example : PostTrivialUnderVN exCfg := fun _ _ => rfl

example : ∀ c ∈ exCalls, CallRoundTrip c :=
  fun c hc => callRoundTrip_of_check c (by revert c; decide +kernel)

example : Unclipped exNz [101] ∧ Unclipped exNz [2] ∧ Unclipped exNz [202] := by
  simp only [Unclipped, CoordsUnclipped, exNz]
  norm_num

example : (run exCfg exCalls).st.buffer.map (fun r => (r.obs, r.nextObs, r.done, r.timeout)) =
    [ ([[0], [100]], [[1], [101]], [false, true], [false, true]),
      ([[1], [200]], [[2], [201]], [true, false], [false, false]),
      ([[10], [201]], [[11], [202]], [false, true], [false, false]) ] := by decide +kernel

example : (run exCfg exCalls).st.buffer.map (·.reward) = [[1, 2], [3, -1], [0, 0]] := by decide +kernel

/-- the stored actions are in `[-1, 1]`, the envs received their rescalings -/
example : (run exCfg exCalls).st.trace.map (fun o => (o.row.action, o.action)) =
    [ ([[1/2], [1]], [[4], [6]]), ([[-1/2], [-1]], [[0], [-2]]), ([[0], [0]], [[2], [2]]) ] := by decide +kernel

/-- the warm-up flag follows `num_timesteps < learning_starts` and the noise of finished envs is reset -/
example : (run exCfg exCalls).st.trace.map (fun o => (o.warmup, o.noiseReset)) =
    [(true, [1]), (false, [0]), (false, [1])] := by decide +kernel

/-- `wrapCfg'`, `wrapCalls'`: the coordinate-swapping wrapper *without* `VecNormalize`, an episode that ends at the
first step, an env whose reused info dict still holds that terminal observation at the second step: the rows hold
the wrapped observations, the wrapped terminal observation `[4, 3]` (not the wrapped reset observation `[6, 5]`),
and the next row starts from the wrapped reset observation. -/
example : (run wrapCfg' wrapCalls').st.buffer.map (fun r => (r.obs, r.nextObs, r.done)) =
    [ ([[2, 1]], [[4, 3]], [true]), ([[6, 5]], [[8, 7]], [false]) ] := by decide +kernel

example : ∀ c ∈ wrapCalls', c.wf wrapCfg' = true := by decide +kernel

end SB3Verif.C04
