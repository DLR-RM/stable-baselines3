/-
Lemmas for C13 (callback event protocol; model: `SB3Verif/Model/Callback.lean`).

The loop machine: an invariant (`Inv`) ties the protocol monitor's state to the program counter of `learn`, and a
potential (`phi`) bounds the control-flow steps still to be made. The callback tree: what one call does to a node
(identifiers, the answer of `on_step`), how a call reaches a sub-tree below `CallbackList`s, and the cadences of
`EveryNTimesteps`, `CheckpointCallback` / `EvalCallback` and `StopTrainingOnNoModelImprovement` one call at a time.
-/
import SB3Verif.Model.Callback

namespace SB3Verif.Callback.Lemmas

open SB3Verif.Callback

section Machine
variable {σ : Type}

theorem P_run_append (d g0 : Nat) (t u : List (Call × Bool)) :
    P.run d g0 (t ++ u) = u.foldl (P.next d) (P.run d g0 t) := List.foldl_append

theorem P_next_envStep (d n g : Nat) (b ok : Bool) :
    P.next d (P.next d ⟨.rollout, n, g⟩ (.updateLocals (g + 1), b)) (.step (n + d), ok) =
      ⟨if ok then .rollout else .stopped, n + d, g + 1⟩ :=
  (congrArg (P.next d · _) (if_pos rfl)).trans (if_pos rfl)

theorem P_next_refresh (d n g : Nat) (b : Bool) : P.next d ⟨.rollout, n, g⟩ (.updateLocals g, b) = ⟨.tail, n, g⟩ :=
  (if_neg (Nat.ne_of_lt (Nat.lt_succ_self g))).trans (if_pos rfl)

@[simp] theorem invoke_trace (h : σ → Call → σ × Bool) (s : LS σ) (c : Call) :
    (s.invoke h c).1.trace = s.trace ++ [(c, (h s.cb c).2)] := rfl
@[simp] theorem invoke_ok (h : σ → Call → σ × Bool) (s : LS σ) (c : Call) :
    (s.invoke h c).2 = (h s.cb c).2 := rfl
@[simp] theorem invoke_cb (h : σ → Call → σ × Bool) (s : LS σ) (c : Call) :
    (s.invoke h c).1.cb = (h s.cb c).1 := rfl
@[simp] theorem invoke_pc (h : σ → Call → σ × Bool) (s : LS σ) (c : Call) :
    (s.invoke h c).1.pc = s.pc := rfl
@[simp] theorem invoke_num (h : σ → Call → σ × Bool) (s : LS σ) (c : Call) :
    (s.invoke h c).1.num = s.num := rfl
@[simp] theorem invoke_total (h : σ → Call → σ × Bool) (s : LS σ) (c : Call) :
    (s.invoke h c).1.total = s.total := rfl
@[simp] theorem invoke_g (h : σ → Call → σ × Bool) (s : LS σ) (c : Call) :
    (s.invoke h c).1.g = s.g := rfl

theorem invoke_fst (h : σ → Call → σ × Bool) (s : LS σ) (c : Call) :
    (s.invoke h c).1 = { s with cb := (h s.cb c).1, trace := s.trace ++ [(c, (h s.cb c).2)] } := rfl

/-- state of the callback after a list of calls -/
def foldH (h : σ → Call → σ × Bool) (cb : σ) (cs : List Call) : σ := cs.foldl (fun c x => (h c x).1) cb

theorem foldH_append (h : σ → Call → σ × Bool) (cb : σ) (a b : List Call) :
    foldH h cb (a ++ b) = foldH h (foldH h cb a) b := List.foldl_append

variable {cfg : Cfg} {h : σ → Call → σ × Bool} {s : LS σ}

/-- One environment step of `learn`, with both calls in one list. (The transitions from `start`, `loopHead` and
`rolloutTail` are read off `LS.next` by `simp only [LS.next, hpc]` where they are needed.) -/
theorem next_step {col ep : Nat} (hpc : s.pc = .inRollout col ep) (hm : cfg.kind.more col ep = true) :
    let r1 := h s.cb (.updateLocals (s.g + 1))
    let r2 := h r1.1 (.step (s.num + cfg.nEnvs))
    s.next cfg h =
      { pc := bif r2.2 then .inRollout (col + 1) (ep + cfg.dones (s.g + 1)) else .finish,
        num := s.num + cfg.nEnvs, total := s.total, g := s.g + 1, cb := r2.1,
        trace := s.trace ++ [(.updateLocals (s.g + 1), r1.2), (.step (s.num + cfg.nEnvs), r2.2)] } := by
  simp only [LS.next, hpc, hm, if_true, invoke_fst, List.append_assoc, List.cons_append, List.nil_append]; rfl

theorem next_rolloutDone {col ep : Nat} (hpc : s.pc = .inRollout col ep) (hm : cfg.kind.more col ep = false) :
    s.next cfg h = { s with pc := .rolloutTail } := by
  simp only [LS.next, hpc, hm, Bool.false_eq_true, if_false]

theorem next_finish (hpc : s.pc = .finish) :
    s.next cfg h = { (s.invoke h .trainingEnd).1 with pc := .done } := by
  simp only [LS.next, hpc]

theorem next_done (hpc : s.pc = .done) : s.next cfg h = s := by
  simp only [LS.next, hpc]

variable (cfg) (h) (s)

theorem runN_induction {Q : LS σ → Prop} (step : ∀ s, Q s → Q (s.next cfg h)) (n : Nat) :
    ∀ s, Q s → Q (LS.runN cfg h n s) := by
  induction n with
  | zero => exact fun _ hs => hs
  | succ n ih => exact fun s hs => ih _ (step s hs)

/-- The monitor state that belongs to each program counter of the loop, with the loop's counters `num`, `g`
(before `on_training_start` the monitor's timestep counter is not set yet). -/
def pcOk (num g : Nat) (p : P) : Pc → Prop
  | .start => ∃ n, p = ⟨.init, n, g⟩
  | .loopHead => p = ⟨.between, num, g⟩
  | .inRollout _ _ => p = ⟨.rollout, num, g⟩
  | .rolloutTail => p = ⟨.rollout, num, g⟩
  | .finish => p = ⟨.between, num, g⟩ ∨ p = ⟨.stopped, num, g⟩
  | .done => p = ⟨.final, num, g⟩

/-- What `pcOk` says to an observer of the monitor: it has not rejected, it carries the loop's counters, and it
is in its final state when the loop is done. -/
theorem pcOk.accepted {num g : Nat} {p : P} {pc : Pc} (hm : pcOk num g p pc) :
    p.st ≠ .reject ∧ p.g = g ∧ (pc ≠ .start → p.num = num) ∧ (pc = .done → p.st = .final) := by
  cases pc
  case start => obtain ⟨n, rfl⟩ := hm; exact ⟨nofun, rfl, fun h => absurd rfl h, nofun⟩
  case finish => obtain rfl | rfl := hm <;> exact ⟨nofun, rfl, fun _ => rfl, nofun⟩
  case done => obtain rfl : p = _ := hm; exact ⟨nofun, rfl, fun _ => rfl, fun _ => rfl⟩
  all_goals (obtain rfl : p = _ := hm; exact ⟨nofun, rfl, fun _ => rfl, nofun⟩)

/-- Invariant of `learn`: the monitor has accepted the trace so far and tracks both counters; the timestep counter is
`num0 + d * (environment steps made in this call)`, the `step` calls so far carry `num0 + d, num0 + 2 d, …`, and the
callback is what the logged calls made of the callback `cb0` that was passed in. -/
structure Inv (h : σ → Call → σ × Bool) (d g0 num0 : Nat) (cb0 : σ) (s : LS σ) : Prop where
  mon : pcOk s.num s.g (P.run d g0 s.trace) s.pc
  lin : s.num = num0 + d * (s.g - g0)
  ge : g0 ≤ s.g
  steps : stepNums s.trace = arith (num0 + d) d (s.g - g0)
  log : s.cb = foldH h cb0 (s.trace.map (·.1))

theorem stepNums_append (t u : List (Call × Bool)) : stepNums (t ++ u) = stepNums t ++ stepNums u := by
  induction t with
  | nil => rfl
  | cons x t ih =>
    obtain ⟨c, b⟩ := x
    cases c <;> simp only [List.cons_append, stepNums, ih]

theorem arith_succ (a d k : Nat) : arith a d (k + 1) = arith a d k ++ [a + d * k] := by
  induction k generalizing a with
  | zero => rfl
  | succ k ih =>
    rw [arith, ih (a + d), Nat.mul_succ, Nat.add_assoc, Nat.add_comm d]; rfl

theorem inv_next (g0 num0 : Nat) (cb0 : σ)
    (hi : Inv h cfg.nEnvs g0 num0 cb0 s) : Inv h cfg.nEnvs g0 num0 cb0 (s.next cfg h) := by
  obtain ⟨hm, hlin, hge, hsteps, hlog⟩ := hi
  have log : ∀ u : List (Call × Bool), foldH h s.cb (u.map (·.1)) = foldH h cb0 ((s.trace ++ u).map (·.1)) :=
    fun u => by rw [List.map_append, foldH_append, ← hlog]
  -- the monitor after the calls `u`, which are not `step`s and leave the counters as they are
  have calls : ∀ (u : List (Call × Bool)) (pc : Pc) (cb : σ), stepNums u = [] →
      pcOk s.num s.g (u.foldl (P.next cfg.nEnvs) (P.run cfg.nEnvs g0 s.trace)) pc → cb = foldH h s.cb (u.map (·.1)) →
      Inv h cfg.nEnvs g0 num0 cb0 { s with pc := pc, cb := cb, trace := s.trace ++ u } :=
    fun u pc cb hu hp hcb => ⟨(P_run_append ..).symm ▸ hp, hlin, hge,
      by rw [← hsteps]; exact (stepNums_append ..).trans (by rw [hu, List.append_nil]), hcb.trans (log u)⟩
  revert hm
  cases hpc : s.pc with
  | start =>
    rintro ⟨n, e⟩
    simp only [LS.next, hpc]
    exact calls [_] _ _ rfl (by rw [e]; rfl) rfl
  | loopHead =>
    intro (e : P.run _ _ _ = _)
    simp only [LS.next, hpc]
    split
    · exact calls [_] _ _ rfl (by rw [e]; rfl) rfl
    · exact ⟨Or.inl e, hlin, hge, hsteps, hlog⟩
  | inRollout col ep =>
    intro (e : P.run _ _ _ = _)
    cases hmore : cfg.kind.more col ep
    · rw [next_rolloutDone hpc hmore]; exact ⟨e, hlin, hge, hsteps, hlog⟩
    · rw [next_step hpc hmore]
      have hk : s.g + 1 - g0 = (s.g - g0) + 1 := Nat.succ_sub hge
      refine ⟨?_, ?_, Nat.le_succ_of_le hge, ?_, log [(_, _), (_, _)]⟩
      · show pcOk _ _ (P.run _ _ (_ ++ _)) _
        rw [P_run_append, e]
        cases (h (h s.cb (.updateLocals (s.g + 1))).1 (.step (s.num + cfg.nEnvs))).2
        · exact Or.inr (P_next_envStep ..)
        · exact P_next_envStep ..
      · show s.num + cfg.nEnvs = _
        rw [hk, Nat.mul_succ, ← Nat.add_assoc, ← hlin]
      · show stepNums (_ ++ _) = arith _ _ (s.g + 1 - g0)
        rw [stepNums_append, hsteps, hk, arith_succ, Nat.add_right_comm, ← hlin]; rfl
  | rolloutTail =>
    intro (e : P.run _ _ _ = _)
    simp only [LS.next, hpc]
    cases cfg.onPolicy
    · exact calls [_] _ _ rfl (by rw [e]; rfl) rfl
    · show Inv _ _ _ _ _ { s with pc := _, cb := _, trace := s.trace ++ [_] ++ [_] }
      rw [List.append_assoc]
      exact calls [_, _] _ _ rfl (by rw [e]; exact congrArg (P.next _ · _) (P_next_refresh ..)) rfl
  | finish =>
    intro hm
    rw [next_finish hpc]
    exact calls [_] _ _ rfl (by obtain e | e := hm <;> (rw [e]; rfl)) rfl
  | done => intro hm; rw [next_done hpc]; exact ⟨hpc ▸ hm, hlin, hge, hsteps, hlog⟩

/-- potential: an upper bound on the number of control-flow steps still to be made (a rollout of `k` steps takes
`k + 3` of them and advances the counter; the constants stand last so that one step less is `Nat.lt_succ_self`) -/
def phi (k d : Nat) (s : LS σ) : Nat :=
  match s.pc with
  | .done => 0
  | .finish => 1
  | .loopHead => (k + 3) * (s.total - s.num) + 2
  | .start => (k + 3) * (s.total - s.num) + 3
  | .rolloutTail => (k + 3) * (s.total - s.num) + 3
  | .inRollout c _ => (k + 3) * (s.total - (s.num + (k - c) * d)) + (k - c) + 4

theorem phi_next (k : Nat) (hk : 0 < k) (hd : 0 < cfg.nEnvs)
    (hkind : cfg.kind = .steps k) (hpc : s.pc ≠ .done) :
    phi k cfg.nEnvs (s.next cfg h) < phi k cfg.nEnvs s := by
  cases hp : s.pc with
  | start => simp only [LS.next, hp]; simp only [phi, hp]; exact Nat.lt_succ_self _
  | loopHead =>
    simp only [LS.next, hp]
    split
    · rename_i hlt
      simp only [phi, hp, invoke_fst, Nat.sub_zero]
      -- the rollout to come advances the counter by `k * n_envs ≥ 1`, which pays for its `k + 3` steps
      have hK : 0 < k * cfg.nEnvs := Nat.mul_pos hk hd
      generalize k * cfg.nEnvs = K at hK
      have h1 : s.total - (s.num + K) + 1 ≤ s.total - s.num :=
        Nat.sub_add_eq .. ▸ Nat.le_trans (Nat.add_le_add_right (Nat.sub_le_sub_left hK _) 1)
          (Nat.le_of_eq (Nat.sub_add_cancel (Nat.sub_pos_of_lt hlt)))
      exact Nat.succ_lt_succ (Nat.lt_succ_of_le (Nat.mul_le_mul_left (k + 3) h1))
    · simp only [phi, hp]; exact Nat.succ_lt_succ (Nat.succ_pos _)
  | inRollout c e =>
    have hmore : cfg.kind.more c e = decide (c < k) := by rw [hkind]; rfl
    by_cases hc : c < k
    · rw [next_step hp (by rw [hmore]; exact decide_eq_true hc)]
      cases (h (h s.cb (.updateLocals (s.g + 1))).1 (.step (s.num + cfg.nEnvs))).2
      · simp only [phi, hp, cond_false]; exact Nat.succ_lt_succ (Nat.succ_pos _)
      · simp only [phi, hp, cond_true]
        -- `k - c` more steps to go now, `k - (c + 1)` after this one: the two products are the same number
        rw [show k - c = (k - (c + 1)) + 1 from (Nat.succ_pred_eq_of_pos (Nat.sub_pos_of_lt hc)).symm,
          Nat.succ_mul (k - (c + 1)), ← Nat.add_assoc s.num, Nat.add_right_comm s.num]
        exact Nat.lt_succ_self _
    · rw [next_rolloutDone hp (by rw [hmore]; exact decide_eq_false hc)]
      simp only [phi, hp, Nat.sub_eq_zero_of_le (Nat.le_of_not_lt hc), Nat.zero_mul, Nat.add_zero]
      exact Nat.lt_succ_self _
  | rolloutTail =>
    simp only [LS.next, hp]
    cases cfg.onPolicy <;> (simp only [phi, hp]; exact Nat.lt_succ_self _)
  | finish => rw [next_finish hp]; simp only [phi, hp]; exact Nat.zero_lt_one
  | done => exact absurd hp hpc

theorem runN_done (n : Nat) (hpc : s.pc = .done) : LS.runN cfg h n s = s := by
  induction n with
  | zero => rfl
  | succ n ih => rw [LS.runN, next_done hpc, ih]

theorem runN_terminates (k : Nat) (hk : 0 < k) (hd : 0 < cfg.nEnvs) (hkind : cfg.kind = .steps k) :
    ∀ (n : Nat) (s : LS σ), phi k cfg.nEnvs s ≤ n → (LS.runN cfg h n s).pc = .done := by
  intro n
  induction n with
  | zero =>
    intro s hs
    exact Decidable.by_contra fun hp =>
      Nat.not_lt_zero _ (Nat.lt_of_lt_of_le (phi_next cfg h s k hk hd hkind hp) hs)
  | succ n ih =>
    intro s hs
    by_cases hp : s.pc = .done
    · rw [runN_done cfg h s _ hp]; exact hp
    · exact ih _ (Nat.le_of_lt_succ (Nat.lt_of_lt_of_le (phi_next cfg h s k hk hd hkind hp) hs))

theorem inv_reachable (prevNum g0 : Nat) (cb : σ) (totalArg : Nat) (reset : Bool) (n : Nat) :
    Inv h cfg.nEnvs g0 (if reset then 0 else prevNum) cb (LS.runN cfg h n (LS.setup prevNum g0 cb totalArg reset)) :=
  runN_induction cfg h (fun s => inv_next cfg h s g0 _ cb) n _
    -- no environment step yet: `g - g0 = 0`, so the counter is `num0` and both lists are empty
    ⟨⟨0, rfl⟩, by rw [LS.setup, Nat.sub_self]; rfl, Nat.le_refl _, by rw [LS.setup, Nat.sub_self]; rfl, rfl⟩

end Machine

theorem feedAll_evs (dones : Dones) : ∀ (cs : List Call) (r : Run),
    (Run.feedAll dones r cs).evs = r.evs ++ Cb.evsOf dones r.cb r.ext cs := by
  intro cs
  induction cs with
  | nil => exact fun r => (List.append_nil _).symm
  | cons c cs ih => exact fun r => (ih (r.feed dones c).1).trans (List.append_assoc ..)

theorem events_eq_evsOf (dones : Dones) (t : Cb) (x : Ext) (cs : List Call) :
    Cb.events dones t x cs = Cb.evsOf dones t x cs :=
  (feedAll_evs dones cs _).trans (List.nil_append _)

theorem evsOf_append (dones : Dones) : ∀ (a b : List Call) (t : Cb) (x : Ext),
    Cb.evsOf dones t x (a ++ b) =
      Cb.evsOf dones t x a ++ Cb.evsOf dones (Cb.after dones t x a).1 (Cb.after dones t x a).2 b := by
  intro a
  induction a with
  | nil => intros; simp [Cb.evsOf, Cb.after]
  | cons c a ih => intro b t x; simp [Cb.evsOf, Cb.after, ih]

theorem after_append (dones : Dones) : ∀ (a b : List Call) (t : Cb) (x : Ext),
    Cb.after dones t x (a ++ b) = Cb.after dones (Cb.after dones t x a).1 (Cb.after dones t x a).2 b := by
  intro a
  induction a with
  | nil => intros; simp [Cb.after]
  | cons c a ih => intro b t x; simp [Cb.after, ih]

theorem learn_evs (cfg : Cfg) (fuel prevNum g0 : Nat) (r : Run) (totalArg : Nat) (reset : Bool) :
    (learn cfg fuel prevNum g0 r totalArg reset).cb.evs =
      Cb.evsOf cfg.dones r.cb r.ext ((learn cfg fuel prevNum g0 r totalArg reset).trace.map (·.1)) := by
  have h := (inv_reachable cfg (treeHandler cfg.dones) prevNum g0 { r with evs := [] } totalArg reset fuel).log
  unfold learn
  rw [h]
  -- over the tree handler, `foldH` is `Run.feedAll`
  exact (feedAll_evs cfg.dones _ { r with evs := [] }).trans (List.nil_append _)

/-- `t.call dones c x` if `b`, and otherwise the result of not calling `t` at all. -/
def callIf (dones : Dones) (b : Bool) (t : Cb) (c : Call) (x : Ext) : Res :=
  bif b then t.call dones c x else { cb := t, ext := x, ok := true, evs := [] }

section StepEquations
variable {dones : Dones} {id n last freq nc nt : Nat} {best : Option Rat} {a b ch : Cb} {x : Ext} {num : Nat}

/-- `on_step` of `EveryNTimesteps`: the child is stepped iff the trigger is due, and the trigger time moves with it. -/
theorem everyN_step :
    let due := everyNDue n last num
    let r := callIf dones due ch (.step num) (x.setP none)
    (Cb.everyN id n last nc nt ch).call dones (.step num) x =
      { cb := .everyN id n (bif due then num else last) (nc + 1) num r.cb, ext := r.ext.setP x.pbest, ok := r.ok,
        evs := r.evs, fail := r.fail } := by
  dsimp only [Cb.call]
  cases everyNDue n last num <;> rfl

theorem eval_step_idle (h : evalDue freq (nc + 1) = false) :
    (Cb.eval id freq nc nt best a b).call dones (.step num) x =
      { cb := .eval id freq (nc + 1) num best a b, ext := x, ok := true, evs := [] } := by
  dsimp only [Cb.call]; rw [if_neg (Bool.eq_false_iff.1 h)]

/-- `on_step` of `EvalCallback` at an evaluation with mean reward `m`: the on-new-best child is stepped iff `m` beats the
best so far, then the after-eval child iff the first did not answer `False`; both read the updated best. -/
theorem eval_step (h : evalDue freq (nc + 1) = true) :
    let m := x.pop.1
    let best' := bif isNewBest best m then some m else best
    let r1 := callIf dones (isNewBest best m) a (.step num) (x.pop.2.setP (some best'))
    let r2 := callIf dones r1.ok b (.step num) r1.ext
    (Cb.eval id freq nc nt best a b).call dones (.step num) x =
      { cb := .eval id freq (nc + 1) num best' r1.cb r2.cb, ext := r2.ext.setP x.pbest, ok := r1.ok && r2.ok,
        evs := ⟨id, .evalRun, nc + 1, num, 0, true⟩ :: (r1.evs ++ r2.evs), fail := r1.fail || r2.fail } := by
  dsimp only [Cb.call]; rw [if_pos h]
  cases isNewBest best x.pop.1
  · rfl
  dsimp only [callIf, cond_true]
  cases (a.call dones (.step num) (x.pop.2.setP (some (some x.pop.1)))).ok
  · -- the after-eval child is skipped: it adds `[]` to the events and `false` to `fail`
    exact congr (congrArg _ (congrArg _ (List.append_nil _).symm)) (Bool.or_false _).symm
  · rfl

end StepEquations

theorem callIf_ids {dones : Dones} {c : Call} {t : Cb}
    (h : ∀ x, (∀ e ∈ (t.call dones c x).evs, e.id ∈ t.ids) ∧ (t.call dones c x).cb.ids = t.ids) (q : Bool) (x : Ext) :
    (∀ e ∈ (callIf dones q t c x).evs, e.id ∈ t.ids) ∧ (callIf dones q t c x).cb.ids = t.ids := by
  cases q
  · exact ⟨List.forall_mem_nil _, rfl⟩
  · exact h x

/-- A call emits events of the tree's own nodes only, and leaves the identifiers of the tree as they are. -/
theorem call_ids (dones : Dones) (c : Call) (t : Cb) : ∀ (x : Ext),
    (∀ e ∈ (t.call dones c x).evs, e.id ∈ t.ids) ∧ (t.call dones c x).cb.ids = t.ids := by
  induction t using Cb.rec (motive_2 := fun ts => ∀ x : Ext,
    (∀ e ∈ (Cb.callL dones c ts x).evs, e.id ∈ Cb.idsL ts) ∧ Cb.idsL (Cb.callL dones c ts x).cbs = Cb.idsL ts) with
  | absent => exact fun x => ⟨List.forall_mem_nil _, rfl⟩
  | list id nc nt cs ih =>
    intro x
    obtain ⟨h1, h2⟩ := ih x
    cases c <;> exact ⟨fun e he => .tail _ (h1 e he), congrArg (id :: ·) h2⟩
  | everyN id n last nc nt ch ih =>
    intro x
    have fwd : ∀ q y, (∀ e ∈ (callIf dones q ch c y).evs, e.id ∈ id :: ch.ids) ∧
        id :: (callIf dones q ch c y).cb.ids = id :: ch.ids :=
      fun q y => ⟨fun e he => .tail _ ((callIf_ids ih q y).1 e he), congrArg (id :: ·) (callIf_ids ih q y).2⟩
    cases c with
    | step num => rw [everyN_step]; exact fwd _ _
    | trainingStart | updateLocals => exact fwd true _
    | _ => exact ⟨List.forall_mem_nil _, rfl⟩
  | eval id freq nc nt best a b iha ihb =>
    intro x
    have inA : ∀ q y, ∀ e ∈ (callIf dones q a c y).evs, e.id ∈ id :: (a.ids ++ b.ids) :=
      fun q y e he => .tail _ (List.mem_append_left _ ((callIf_ids iha q y).1 e he))
    have inB : ∀ q y, ∀ e ∈ (callIf dones q b c y).evs, e.id ∈ id :: (a.ids ++ b.ids) :=
      fun q y e he => .tail _ (List.mem_append_right _ ((callIf_ids ihb q y).1 e he))
    have ids : ∀ q y r z, id :: ((callIf dones q a c y).cb.ids ++ (callIf dones r b c z).cb.ids) = id :: (a.ids ++ b.ids) :=
      fun q y r z => by rw [(callIf_ids iha q y).2, (callIf_ids ihb r z).2]
    cases c with
    | trainingStart | updateLocals => exact ⟨List.forall_mem_append.2 ⟨inB true _, inA true _⟩, ids true _ true _⟩
    | step num =>
      cases hd : evalDue freq (nc + 1)
      · rw [eval_step_idle hd]; exact ⟨List.forall_mem_nil _, rfl⟩
      · rw [eval_step hd]
        exact ⟨List.forall_mem_cons.2 ⟨.head _, List.forall_mem_append.2 ⟨inA _ _, inB _ _⟩⟩, ids _ _ _ _⟩
    | _ => exact ⟨List.forall_mem_nil _, rfl⟩
  | checkpoint id freq nc nt =>
    intro x
    cases c
    case step => exact ⟨fun e he => List.mem_singleton.1 (List.mem_ite_nil_right.1 he).2 ▸ .head _, rfl⟩
    all_goals exact ⟨List.forall_mem_nil _, rfl⟩
  | leaf =>
    intro x
    cases c
    case updateLocals => exact ⟨List.forall_mem_nil _, rfl⟩
    all_goals exact ⟨List.forall_mem_singleton.2 (.head _), rfl⟩
  | maxEp | fn | rewardThr | noImprove =>
    -- these record their `on_step` only
    intro x
    cases c
    case step => exact ⟨List.forall_mem_singleton.2 (.head _), rfl⟩
    all_goals exact ⟨List.forall_mem_nil _, rfl⟩
  | nil => exact ⟨List.forall_mem_nil _, rfl⟩
  | cons t ts iht ihts =>
    rename_i x
    obtain ⟨h1, h2⟩ := iht x
    obtain ⟨g1, g2⟩ := ihts (t.call dones c x).ext
    exact ⟨List.forall_mem_append.2 ⟨fun e he => List.mem_append_left _ (h1 e he),
      fun e he => List.mem_append_right _ (g1 e he)⟩, by rw [Cb.callL, Cb.idsL, Cb.idsL, h2, g2]⟩

theorem callL_ids (dones : Dones) (c : Call) (ts : List Cb) (x : Ext) :
    ∀ e ∈ (Cb.callL dones c ts x).evs, e.id ∈ Cb.idsL ts := by
  induction ts generalizing x with
  | nil => exact List.forall_mem_nil _
  | cons t ts ih => exact List.forall_mem_append.2 ⟨fun e he => List.mem_append_left _ ((call_ids dones c t x).1 e he),
      fun e he => List.mem_append_right _ (ih _ e he)⟩

theorem step_ok (dones : Dones) (num : Nat) (t : Cb) : ∀ (x : Ext),
    (t.call dones (.step num) x).ok = (t.call dones (.step num) x).evs.all (·.ret) := by
  induction t using Cb.rec (motive_2 := fun ts => ∀ x : Ext,
    (Cb.callL dones (.step num) ts x).ok = (Cb.callL dones (.step num) ts x).evs.all (·.ret)) with
  | absent => exact fun _ => rfl
  | list id nc nt cs ih => exact ih
  | everyN id n last nc nt ch ih =>
    intro x
    rw [everyN_step]
    cases everyNDue n last num
    · rfl
    · exact ih _
  | eval id freq nc nt best a b iha ihb =>
    intro x
    have okA : ∀ q y, (callIf dones q a (.step num) y).ok = (callIf dones q a (.step num) y).evs.all (·.ret) :=
      fun q y => by cases q; rfl; exact iha y
    have okB : ∀ q y, (callIf dones q b (.step num) y).ok = (callIf dones q b (.step num) y).evs.all (·.ret) :=
      fun q y => by cases q; rfl; exact ihb y
    cases hd : evalDue freq (nc + 1)
    · rw [eval_step_idle hd]; rfl
    · rw [eval_step hd, List.all_cons, List.all_append, ← okA, ← okB]; rfl
  | checkpoint id freq nc nt => intro x; dsimp only [Cb.call]; split <;> rfl
  | leaf | maxEp | fn | rewardThr | noImprove => exact fun _ => (Bool.and_true _).symm
  | nil => rfl
  | cons t ts iht ihts =>
    rename_i x
    rw [Cb.callL, List.all_append, ← iht, ← ihts]

theorem stepL_ok (dones : Dones) (num : Nat) : ∀ (ts : List Cb) (x : Ext),
    (Cb.callL dones (.step num) ts x).ok = (Cb.callL dones (.step num) ts x).evs.all (·.ret) :=
  -- `on_step` of a `CallbackList` is `callL` on its children
  fun ts x => step_ok dones num (.list 0 0 0 ts) x

theorem proj_append (id : Nat) (a b : List Event) : proj id (a ++ b) = proj id a ++ proj id b :=
  List.filter_append ..

theorem proj_nil_of_not_mem (id : Nat) (evs : List Event) (ids : List Nat)
    (h : ∀ e ∈ evs, e.id ∈ ids) (hn : id ∉ ids) : proj id evs = [] :=
  List.filter_eq_nil_iff.2 fun e he heq => hn (eq_of_beq heq ▸ h e he)

theorem ids_getElem (cs : List Cb) (i : Nat) (c : Cb) (h : cs[i]? = some c) : c.ids.Sublist (Cb.idsL cs) := by
  induction cs generalizing i with
  | nil => cases h
  | cons t ts ih =>
    cases i with
    | zero => cases h; exact List.sublist_append_left ..
    | succ i => exact (ih i h).trans (List.sublist_append_right ..)

theorem subAt_ids (p : List Nat) : ∀ (t u : Cb), subAt p t = some u → u.ids.Sublist t.ids := by
  induction p with
  | nil => intro t u h; cases h; exact List.Sublist.refl _
  | cons i p ih =>
    intro t u h
    cases t with
    | list lid nc nt cs =>
      simp only [subAt] at h
      split at h
      · rename_i c hc
        exact ((ih c u h).trans (ids_getElem cs i c hc)).cons _
      · cases h
    | _ => cases h

theorem callL_at (dones : Dones) (c : Call) (id : Nat) : ∀ (cs : List Cb) (x : Ext) (i : Nat) (ci : Cb),
    cs[i]? = some ci → (Cb.idsL cs).Nodup → id ∈ ci.ids →
    ∃ xi, (Cb.callL dones c cs x).cbs[i]? = some (ci.call dones c xi).cb ∧
      proj id (Cb.callL dones c cs x).evs = proj id (ci.call dones c xi).evs := by
  intro cs
  induction cs with
  | nil => intro x i ci h; cases h
  | cons t ts ih =>
    intro x i ci h hnd hid
    have hdis := List.nodup_append.mp hnd
    rw [Cb.callL, proj_append]
    cases i with
    | zero =>
      cases h
      have hn : id ∉ Cb.idsL ts := fun hm => hdis.2.2 id hid id hm rfl
      rw [proj_nil_of_not_mem id _ _ (callL_ids dones c ts _) hn, List.append_nil]
      exact ⟨x, rfl, rfl⟩
    | succ i =>
      obtain ⟨xi, h1, h2⟩ := ih (t.call dones c x).ext i ci h hdis.2.1 hid
      have hn : id ∉ t.ids := fun hm => hdis.2.2 id hm id ((ids_getElem ts i ci h).subset hid) rfl
      rw [proj_nil_of_not_mem id _ _ (call_ids dones c t x).1 hn, List.nil_append]
      exact ⟨xi, h1, h2⟩

theorem list_call (dones : Dones) (c : Call) (lid nc nt : Nat) (cs : List Cb) (x : Ext) :
    ∃ nc' nt', ((Cb.list lid nc nt cs).call dones c x).cb = .list lid nc' nt' (Cb.callL dones c cs x).cbs ∧
      ((Cb.list lid nc nt cs).call dones c x).evs = (Cb.callL dones c cs x).evs := by
  cases c <;> exact ⟨_, _, rfl, rfl⟩

/-- A sub-tree `u` reached through `CallbackList`s only is called whenever the tree is (with some externals `xi`),
and the events under any of its identifiers are its own. -/
theorem call_under_lists (dones : Dones) (c : Call) (id : Nat) :
    ∀ (p : List Nat) (t u : Cb) (x : Ext), t.ids.Nodup → subAt p t = some u → id ∈ u.ids →
      ∃ xi, subAt p (t.call dones c x).cb = some (u.call dones c xi).cb ∧
        proj id (t.call dones c x).evs = proj id (u.call dones c xi).evs := by
  intro p
  induction p with
  | nil => intro t u x _ h _; cases h; exact ⟨x, rfl, rfl⟩
  | cons i p ih =>
    intro t u x hnd h hid
    cases t with
    | list lid lnc lnt cs =>
      simp only [subAt] at h
      split at h
      · rename_i ci hci
        have hnd' : (Cb.idsL cs).Nodup := (List.nodup_cons.mp hnd).2
        obtain ⟨xi, h1, h2⟩ := callL_at dones c id cs x i ci hci hnd' ((subAt_ids p ci u h).subset hid)
        obtain ⟨nc', nt', e1, e2⟩ := list_call dones c lid lnc lnt cs x
        obtain ⟨xj, g1, g2⟩ := ih ci u xi (hnd'.sublist (ids_getElem cs i ci hci)) h hid
        exact ⟨xj, by rw [e1]; simp only [subAt, h1]; exact g1, by rw [e2, h2]; exact g2⟩
      · cases h
    | _ => cases h

/-- a call on a leaf leaves a leaf, and neither reads nor changes the external streams -/
theorem leaf_call (dones : Dones) (c : Call) (id : Nat) (st : List Nat) (nc nt loc : Nat) :
    ∃ nc' nt' loc' ok evs, ∀ x, (Cb.leaf id st nc nt loc).call dones c x = ⟨.leaf id st nc' nt' loc', x, ok, evs, false⟩ := by
  cases c <;> exact ⟨_, _, _, _, _, fun _ => rfl⟩

theorem evsOf_leaf_ext (dones : Dones) (id : Nat) (st : List Nat) : ∀ (cs : List Call) (nc nt loc : Nat) (x y : Ext),
    Cb.evsOf dones (.leaf id st nc nt loc) x cs = Cb.evsOf dones (.leaf id st nc nt loc) y cs := by
  intro cs
  induction cs with
  | nil => intros; rfl
  | cons c cs ih =>
    intro nc nt loc x y
    obtain ⟨nc', nt', loc', ok, evs, e⟩ := leaf_call dones c id st nc nt loc
    rw [Cb.evsOf, Cb.evsOf, e x, e y]
    exact congrArg (evs ++ ·) (ih nc' nt' loc' x y)

theorem evsOf_under_lists (dones : Dones) (id : Nat) (st : List Nat) :
    ∀ (cs : List Call) (p : List Nat) (t : Cb) (x : Ext) (nc nt loc : Nat),
      t.ids.Nodup → subAt p t = some (.leaf id st nc nt loc) →
      proj id (Cb.evsOf dones t x cs) = Cb.evsOf dones (.leaf id st nc nt loc) x cs := by
  intro cs
  induction cs with
  | nil => intros; rfl
  | cons c cs ih =>
    intro p t x nc nt loc hnd h
    obtain ⟨xi, h1, h2⟩ := call_under_lists dones c id p t _ x hnd h (.head _)
    have own := (call_ids dones c (.leaf id st nc nt loc) xi).1
    -- the leaf was called with some `xi`, which it does not look at
    obtain ⟨nc', nt', loc', ok, evs, e⟩ := leaf_call dones c id st nc nt loc
    rw [e xi] at h1 h2 own
    have hnd' : (t.call dones c x).cb.ids.Nodup := by rw [(call_ids dones c t x).2]; exact hnd
    rw [Cb.evsOf, Cb.evsOf, proj_append, h2, ih p _ (t.call dones c x).ext nc' nt' loc' hnd' h1, e x]
    -- all events of a leaf carry its identifier
    exact congr (congrArg _ (List.filter_eq_self.2 fun e he => beq_iff_eq.2 (List.mem_singleton.1 (own e he))))
      (evsOf_leaf_ext dones id st cs nc' nt' loc' _ _)

@[simp] theorem ext_restore (x : Ext) (b : Option (Option Rat)) : (x.setP b).setP x.pbest = x := by
  cases x; rfl

theorem stepTimes_cons_of_ne (id : Nat) (e : Event) (l : List Event) (h : (e.kind == .step) = false) :
    stepTimes id (e :: l) = stepTimes id l := by
  unfold stepTimes proj
  rw [List.filter_cons]
  split
  · rw [List.filter_cons, if_neg (Bool.eq_false_iff.1 h)]
  · rfl

/-- core of the EveryNTimesteps cadence: from a state that is armed at `a` (`a ≤ num < a + n`), `k` more
vectorised steps of `d` timesteps each. -/
theorem everyN_segment (dones : Dones) (id n d cid : Nat) (st : List Nat) (hn : 0 < n) :
    ∀ (k a num g0 nc nt lnc lnt lloc : Nat) (x : Ext), a ≤ num → num < a + n →
      let X := Cb.everyN id n a nc nt (.leaf cid st lnc lnt lloc)
      let T := stepTimes cid (Cb.evsOf dones X x (segmentCalls num d g0 k))
      gapsWithin n (n + d) a T ∧ T.getLastD a ≤ num + k * d ∧ num + k * d < T.getLastD a + n ∧
        ∃ nc' nt' lnc' lnt' lloc', (Cb.after dones X x (segmentCalls num d g0 k)).1 =
          Cb.everyN id n (T.getLastD a) nc' nt' (.leaf cid st lnc' lnt' lloc') := by
  intro k
  induction k with
  | zero =>
    intro a num g0 nc nt lnc lnt lloc x h1 h2
    exact ⟨trivial, by rw [Nat.zero_mul]; exact h1, by rw [Nat.zero_mul]; exact h2, _, _, _, _, _, rfl⟩
  | succ k ih =>
    intro a num g0 nc nt lnc lnt lloc x h1 h2
    have hk : num + d + k * d = num + (k + 1) * d := by rw [Nat.succ_mul, Nat.add_assoc, Nat.add_comm d]
    rw [segmentCalls]
    -- `update_locals` reaches the leaf and emits nothing; the step is forwarded iff the trigger is due
    dsimp only [Cb.evsOf, Cb.after, Cb.call]
    rw [← hk]
    by_cases hdue : everyNDue n a (num + d) = true
    · have hle : a + n ≤ num + d := of_decide_eq_true hdue
      obtain ⟨g1, g2, g3, g4⟩ := ih (num + d) (num + d) (g0 + 1) (nc + 1) (num + d) (lnc + 1) (num + d) (g0 + 1)
        x (Nat.le_refl _) (Nat.lt_add_of_pos_right hn)
      have eT : ∀ l, stepTimes cid (⟨cid, .step, lnc + 1, num + d, g0 + 1, !st.contains (lnc + 1)⟩ :: l) =
          (num + d) :: stepTimes cid l := fun l => by simp [stepTimes, proj]
      rw [if_pos hdue, ext_restore]
      simp only [List.nil_append, List.singleton_append, eT, List.getLastD_cons]
      exact ⟨⟨hle, Nat.add_assoc a n d ▸ Nat.add_lt_add_right h2 d, g1⟩, g2, g3, g4⟩
    · rw [if_neg hdue]
      exact ih a (num + d) (g0 + 1) (nc + 1) (num + d) lnc lnt (g0 + 1) x (Nat.le_add_right_of_le h1)
        (Nat.lt_of_not_le (of_decide_eq_false (Bool.eq_false_iff.2 hdue)))

theorem everyKthCall_cons (id : Nat) (kind : Kind) (f nc a : Nat) (nums : List Nat) :
    everyKthCall id kind f nc (a :: nums) =
      (if (nc + 1) % f == 0 then [⟨id, kind, nc + 1, a, 0, true⟩] else []) ++ everyKthCall id kind f (nc + 1) nums := by
  simp only [everyKthCall, List.zipIdx_cons, List.filter_cons]
  split <;> rfl

/-- how many events the cadence specification contains: the multiples of `f` in `(nc, nc + number of calls]` -/
theorem everyKthCall_length (id : Nat) (kind : Kind) (f nc : Nat) (nums : List Nat) :
    (everyKthCall id kind f nc nums).length = (nc + nums.length) / f - nc / f := by
  induction nums generalizing nc with
  | nil => exact (Nat.sub_self _).symm
  | cons a t ih =>
    have hs : (nc + 1) / f = nc / f + (if f ∣ nc + 1 then 1 else 0) := Nat.succ_div
    have hmono : (nc + 1) / f ≤ (nc + 1 + t.length) / f := Nat.div_le_div_right (Nat.le_add_right ..)
    rw [everyKthCall_cons, List.length_append, ih, List.length_cons, Nat.add_comm t.length, ← Nat.add_assoc, hs] at *
    generalize (nc + 1 + t.length) / f = A at *
    by_cases hd : f ∣ nc + 1
    · rw [if_pos hd] at hmono ⊢
      rw [if_pos (beq_iff_eq.2 (Nat.mod_eq_zero_of_dvd hd)), Nat.sub_add_eq, Nat.add_comm]
      exact Nat.sub_add_cancel (Nat.le_sub_of_add_le (Nat.add_comm .. ▸ hmono))
    · rw [if_neg hd]
      rw [if_neg (fun h => hd (Nat.dvd_of_mod_eq_zero (beq_iff_eq.1 h)))]
      exact Nat.zero_add _

theorem eventsOfKind_append (id : Nat) (k : Kind) (a b : List Event) :
    eventsOfKind id k (a ++ b) = eventsOfKind id k a ++ eventsOfKind id k b :=
  List.filter_append ..

theorem eventsOfKind_nil_of_not_mem (id : Nat) (k : Kind) (evs : List Event) (ids : List Nat)
    (h : ∀ e ∈ evs, e.id ∈ ids) (hn : id ∉ ids) : eventsOfKind id k evs = [] :=
  List.filter_eq_nil_iff.2 fun e he heq => hn (eq_of_beq (Bool.and_eq_true_iff.1 heq).1 ▸ h e he)

/-- `n_calls` counts the `on_step` calls only -/
def stepInc : Call → Nat
  | .step _ => 1
  | _ => 0

/-- One call on an `EvalCallback` as far as its own `evalRun` events go (the children have other identifiers): it
stays an `EvalCallback` with the same `eval_freq` and children of the same identifiers, `n_calls` counts the call if it
is an `on_step`, and an evaluation is recorded iff that `on_step` is due. -/
theorem eval_call (dones : Dones) (c : Call) (id freq nc nt : Nat) (best : Option Rat) (a b : Cb) (x : Ext)
    (ha : id ∉ a.ids) (hb : id ∉ b.ids) :
    ∃ nt' best' a' b', ((Cb.eval id freq nc nt best a b).call dones c x).cb =
        .eval id freq (nc + stepInc c) nt' best' a' b' ∧ a'.ids = a.ids ∧ b'.ids = b.ids ∧
      eventsOfKind id .evalRun ((Cb.eval id freq nc nt best a b).call dones c x).evs =
        (match c with
          | .step num => if evalDue freq (nc + 1) then [⟨id, .evalRun, nc + 1, num, 0, true⟩] else []
          | _ => []) := by
  have A := fun c => callIf_ids (call_ids dones c a)
  have B := fun c => callIf_ids (call_ids dones c b)
  have nilA : ∀ c q y, eventsOfKind id .evalRun (callIf dones q a c y).evs = [] :=
    fun c q y => eventsOfKind_nil_of_not_mem id _ _ a.ids (A c q y).1 ha
  have nilB : ∀ c q y, eventsOfKind id .evalRun (callIf dones q b c y).evs = [] :=
    fun c q y => eventsOfKind_nil_of_not_mem id _ _ b.ids (B c q y).1 hb
  cases c with
  | trainingStart | updateLocals =>
    exact ⟨_, _, _, _, rfl, (A _ true _).2, (B _ true _).2,
      (eventsOfKind_append ..).trans (List.append_eq_nil_iff.2 ⟨nilB _ true _, nilA _ true _⟩)⟩
  | rolloutStart | rolloutEnd | trainingEnd => exact ⟨_, _, _, _, rfl, rfl, rfl, rfl⟩
  | step num =>
    cases hd : evalDue freq (nc + 1)
    · rw [eval_step_idle hd]; exact ⟨_, _, _, _, rfl, rfl, rfl, rfl⟩
    · rw [eval_step hd]
      exact ⟨_, _, _, _, rfl, (A _ _ _).2, (B _ _ _).2, (List.filter_cons_of_pos (by simp)).trans
        (congrArg _ ((eventsOfKind_append ..).trans (List.append_eq_nil_iff.2 ⟨nilA .., nilB ..⟩)))⟩

theorem evalDue_succ (f nc : Nat) : evalDue f (nc + 1) = ((nc + 1) % f == 0) := by
  cases f with
  | zero => simp [evalDue]
  | succ f => exact Bool.true_and _

/-- One call of `StopTrainingOnNoModelImprovement` in terms of its two tests (`c`: the call is counted, `i`: the
parent's best improved): the new counter is the streak of the extended history, and the answer is the specified one. -/
theorem noImp_step (c i : Bool) (maxNo noImp : Nat) (h : List Bool) (h1 : noImp = streak h)
    (h0 : c = false → noImp = 0) :
    let n' := if c then (if i then 0 else noImp + 1) else noImp
    n' = streak ((c && !i) :: h) ∧ (c = false → n' = 0) ∧
      (!(c && !i && decide (maxNo < noImp + 1))) = !decide (maxNo < streak ((c && !i) :: h)) := by
  subst h1
  cases c
  · exact ⟨h0 rfl, h0, rfl⟩
  · cases i
    · exact ⟨rfl, nofun, rfl⟩
    · exact ⟨rfl, nofun, rfl⟩

theorem noImp_feed (dones : Dones) (id maxNo minEvals : Nat) :
    ∀ (bs : List (Option Rat)) (h : List Bool) (last : Option Rat) (noImp nc nt : Nat) (x : Ext),
      noImp = streak h → (nc < minEvals → noImp = 0) →
      feedBests dones (.noImprove id maxNo minEvals last noImp nc nt) x bs = noImpSpec maxNo minEvals h nc last bs := by
  intro bs
  induction bs with
  | nil => intros; rfl
  | cons b bs ih =>
    intro h last noImp nc nt x h1 h2
    obtain ⟨e1, e0, e2⟩ := noImp_step (decide (minEvals < nc + 1)) (gtBest b last) maxNo noImp h h1
      (fun hc => h2 (Nat.lt_of_succ_le (Nat.le_of_not_lt (of_decide_eq_false hc))))
    rw [feedBests, noImpSpec]
    exact congr (congrArg _ e2) (ih _ b _ (nc + 1) 0 _ e1
      (fun hlt => e0 (decide_eq_false (Nat.lt_asymm hlt))))

end SB3Verif.Callback.Lemmas
