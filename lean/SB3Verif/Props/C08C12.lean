/-
C08 ∘ C12 — how many target updates a whole training history contains.

`SB3Verif.Learn` (C12) produces, for every history of `learn()` calls and environment steps, the event trace of the
training loop (`Ev.step` = one vectorised environment step after which `_on_step` runs, `Ev.train num opt …` = one
`train()` call with `opt` gradient steps). `SB3Verif.Cadence` (C08) consumes a history of `envStep` / `train G`
operations and says which of them update the target network. `toCtr` feeds the first into the second; the theorems
below count the target updates of a DQN or TD3 / DDPG run directly from the C12 trace — for every configuration, every
history, every split into `learn()` calls, every stop request.
-/
import SB3Verif.Lemmas.Learn
import SB3Verif.Lemmas.Cadence
import SB3Verif.Props.C08

namespace SB3Verif.C08C12

open SB3Verif.Cadence

/-- the C08 operations of a C12 event trace: one `envStep` per `step` event, one `train opt` per `train` event (`opt` =
gradient steps of that call); the other events (setup, rollout start / end, progress, finish) touch no counter -/
def toCtr : List Learn.Ev → List CtrOp
  | [] => []
  | .step _ _ :: es => .envStep :: toCtr es
  | .train _ opt _ _ _ :: es => .train opt :: toCtr es
  | _ :: es => toCtr es

/-- number of vectorised environment steps of a trace -/
def stepCount : List Learn.Ev → Nat
  | [] => 0
  | .step _ _ :: es => 1 + stepCount es
  | _ :: es => stepCount es

/-- number of gradient steps of a trace -/
def gradCount : List Learn.Ev → Nat
  | [] => 0
  | .train _ opt _ _ _ :: es => opt + gradCount es
  | _ :: es => gradCount es

theorem totalEnv_toCtr (evs : List Learn.Ev) : totalEnv (toCtr evs) = stepCount evs := by
  induction evs with
  | nil => rfl
  | cons e es ih =>
    cases e with
    | step _ _ => exact congrArg (1 + ·) ih
    | _ => exact ih

theorem totalGrad_toCtr (evs : List Learn.Ev) : totalGrad (toCtr evs) = gradCount evs := by
  induction evs with
  | nil => rfl
  | cons e es ih =>
    cases e with
    | train _ opt _ _ _ => exact congrArg (opt + ·) ih
    | _ => exact ih

/-- the trace contains no `setup` event: one `learn()` call, or several without counter reset -/
def noSetup : List Learn.Ev → Bool
  | [] => true
  | .setup _ _ :: _ => false
  | _ :: es => noSetup es

/-- the `num_timesteps` reading of the last `step` event (`cur` when there is none) -/
def lastNum (cur : Nat) : List Learn.Ev → Nat
  | [] => cur
  | .step num _ :: es => lastNum num es
  | _ :: es => lastNum cur es

/-- every `step` event advances the counter by `n_envs` (C12's `countsOk`), so the number of vectorised steps of a trace
that begins at counter `cur` and contains no `setup` is the counter's growth divided by `n_envs` -/
theorem steps_times_nenvs (n cur : Nat) (evs : List Learn.Ev) (h : Learn.countsOk n cur evs) (hs : noSetup evs = true) :
    lastNum cur evs = cur + n * stepCount evs := by
  induction evs generalizing cur with
  | nil => rfl
  | cons e es ih =>
    cases e with
    | setup a b => cases hs
    | step num p =>
      show lastNum num es = cur + n * (1 + stepCount es)
      rw [ih num h.2 hs, h.1, Nat.add_assoc, Nat.mul_add, Nat.mul_one]
    | _ => exact ih cur h hs

variable {α : Type}

/-- **DQN over a whole training history.** Take ANY C12 history (`ops`: `learn()` calls with or without counter reset, any
environment steps, stop requests, episode ends) of any off- or on-policy configuration `lcfg`, started in any state `s`.
Feed its trace to the C08 counter machine of a DQN with interval `I` on `n_envs` environments, call counter `n_calls₀`.
The number of target-network updates is `⌊(n_calls₀ + K) / p⌋ − ⌊n_calls₀ / p⌋` with `K` the number of vectorised steps
of the trace and `p = max (I / n_envs) 1`; no gradient step updates the target. -/
theorem dqn_updates_of_history (cfg : Cfg α) (h : cfg.algo = .dqn) (c : Ctr)
    (lcfg : Learn.Cfg) (s : Learn.State) (ops : List Learn.Op) :
    let evs := (Learn.run lcfg s ops).2
    (envFlags (ctrRun cfg c (toCtr evs)).2).count true =
      (c.nCalls + stepCount evs) / dqnEvery cfg - c.nCalls / dqnEvery cfg ∧
    (gradFlags (ctrRun cfg c (toCtr evs)).2).count true = 0 := by
  intro evs
  rw [← totalEnv_toCtr]
  exact C08.dqn_update_count cfg h c (toCtr evs)

/-- **TD3 / DDPG over a whole training history**: delayed (actor + target) updates = `⌊(u₀ + G) / policy_delay⌋ − ⌊u₀ /
policy_delay⌋`, `G` the total number of gradient steps of all `train()` calls of the trace. -/
theorem td3_updates_of_history (cfg : Cfg α) (h : cfg.algo = .td3) (c : Ctr)
    (lcfg : Learn.Cfg) (s : Learn.State) (ops : List Learn.Op) :
    let evs := (Learn.run lcfg s ops).2
    (gradFlags (ctrRun cfg c (toCtr evs)).2).count true =
      (c.nUpdates + gradCount evs) / cfg.delay - c.nUpdates / cfg.delay := by
  intro evs
  rw [← totalGrad_toCtr]
  exact C08.td3_update_count cfg h c (toCtr evs)

/-- **DQN, one `learn()` stretch in timesteps**: for a stretch of the trace without counter reset that starts at
`num_timesteps = cur`, `K = (num_timesteps at its end − cur) / n_envs` — the update count is a function of the two counter
readings and `n_calls₀` alone. -/
theorem dqn_updates_of_stretch (cfg : Cfg α) (h : cfg.algo = .dqn) (c : Ctr) (n cur : Nat) (hn : 0 < n)
    (evs : List Learn.Ev) (hc : Learn.countsOk n cur evs) (hs : noSetup evs = true) :
    (envFlags (ctrRun cfg c (toCtr evs)).2).count true =
      (c.nCalls + (lastNum cur evs - cur) / n) / dqnEvery cfg - c.nCalls / dqnEvery cfg := by
  rw [steps_times_nenvs n cur evs hc hs, Nat.add_sub_cancel_left, Nat.mul_div_cancel_left _ hn,
    ← totalEnv_toCtr]
  exact (C08.dqn_update_count cfg h c (toCtr evs)).1

/-- non-vacuity: the trace of `exDQN` (4 environments) over 7 vectorised steps has 7 `step` events -/
example :
    let lcfg : Learn.Cfg := Learn.exDQN
    let evs := (Learn.run lcfg Learn.State.init (.learn 100 true :: Learn.quiet 7)).2
    stepCount evs = 7 := by decide +kernel

end SB3Verif.C08C12
