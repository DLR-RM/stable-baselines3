/-
C05 — GAE advantages/returns match their definition; minibatches partition the rollout.

All statements are about the executable model `SB3Verif/Model/Rollout.lean`, whose definitions the
driver `SB3Verif/Driver/C05.lean` runs against the real `RolloutBuffer`.
-/
import SB3Verif.Lemmas.Rollout
import Mathlib.Algebra.BigOperators.GroupWithZero.Finset

namespace SB3Verif.C05

open SB3Verif.Rollout

variable {α : Type} [CommRing α]

/-- **GAE closed form** (every horizon `T = ss.length`, every step `t`, every `γ λ`, every reward /
value / episode-start / last-value / final-done pattern, any commutative ring):
the advantage the backward loop stores at step `t` is
`Σ_{l=0}^{T-1-t} (γλ)^l · (Π_{j<l} nnt (t+j)) · δ (t+l)` with
`δ k = r k + γ · nextV k · nnt k − v k`, where `nnt k`/`nextV k` come from `episode_starts[k+1]` /
`values[k+1]`, or from the final `dones` / `last_values` for the last step. (`_ht` is not needed: for `t ≥ T` the
stored list has no entry `t` and the sum is empty, so both sides are `0`.) -/
theorem gae_closed_form (γ lam lastV lastNnt : α) (ss : List (Step α)) (t : ℕ) (_ht : t < ss.length) :
    (gaeCol γ lam lastV lastNnt ss).getD t 0 =
      ∑ l ∈ Finset.range (ss.length - t),
        (γ * lam) ^ l * (∏ j ∈ Finset.range l, nntAt lastV lastNnt ss (t + j)) *
          deltaAt γ lastV lastNnt ss (t + l) :=
  Lemmas.gaeCol_getD_closed γ lam lastV lastNnt ss t

/-- **Cut at episode boundaries**: a term of the sum whose span `[t, t+l)` contains a step after
which the episode ended (`nnt = 0`) contributes nothing, so the sum stops at the environment's
episode end. -/
theorem gae_cut_at_boundary (γ lam lastV lastNnt : α) (ss : List (Step α)) (t l j : ℕ)
    (hj : j < l) (hb : nntAt lastV lastNnt ss (t + j) = 0) :
    (γ * lam) ^ l * (∏ j ∈ Finset.range l, nntAt lastV lastNnt ss (t + j)) *
        deltaAt γ lastV lastNnt ss (t + l) = 0 := by
  rw [Finset.prod_eq_zero (Finset.mem_range.mpr hj) hb, mul_zero, zero_mul]

/-- **No boundary, full weight**: if no episode ended inside the span (`nnt = 1` throughout) the
product of non-terminal flags is `1`. -/
theorem gae_weight_inside_episode (lastV lastNnt : α) (ss : List (Step α)) (t l : ℕ)
    (h : ∀ j, j < l → nntAt lastV lastNnt ss (t + j) = 1) :
    (∏ j ∈ Finset.range l, nntAt lastV lastNnt ss (t + j)) = 1 :=
  Finset.prod_eq_one (fun j hj => h j (Finset.mem_range.mp hj))

/-- **Bootstrap**: the last step's `δ` uses the supplied last value, weighted by `1 - done`:
it is present unless the final step ended an episode. -/
theorem gae_bootstrap_last (γ lastV lastNnt : α) (ss : List (Step α)) (s : Step α) :
    deltaAt γ lastV lastNnt (ss ++ [s]) ss.length = s.r + γ * lastV * lastNnt - s.v :=
  Lemmas.deltaAt_append_cons γ lastV lastNnt ss s []

/-- Interior steps use the next stored value and `1 - episode_starts[k+1]`. -/
theorem gae_delta_interior (γ lastV lastNnt : α) (ss : List (Step α)) (s s' : Step α) (rest : List (Step α)) :
    deltaAt γ lastV lastNnt (ss ++ s :: s' :: rest) ss.length = s.r + γ * s'.v * (1 - s'.start) - s.v :=
  Lemmas.deltaAt_append_cons γ lastV lastNnt ss s (s' :: rest)

/-- **return = advantage + value**, slot by slot. -/
theorem returns_eq (adv : List α) (ss : List (Step α)) (t : ℕ) (h1 : t < adv.length) (h2 : t < ss.length) :
    (returnsCol adv ss)[t]'(by simp [returnsCol]; omega) = adv[t] + ss[t].v :=
  List.getElem_zipWith

/-- **returns are the TD(λ) targets**: with `R_t = advantage_t + value_t` (what `compute_returns_and_advantage` stores in
`returns`), every step satisfies the λ-return recursion
`R_t = r_t + γ · nnt_t · ((1 − λ) · V_{t+1} + λ · R_{t+1})`, where for the last step of the rollout `V_{t+1}` is the supplied
last value and `R_{t+1}` is that same last value (the bootstrap), and `nnt_t` masks everything behind an episode end.
Stated for the first step of a column `s :: rest`; step `t` of a longer column is the first step of what remains after
dropping `t` steps, since the backward loop never looks at earlier steps (`Lemmas.gaeCol_drop`).
(All `γ`, `λ`, all value/reward/start patterns, any horizon, any commutative ring.) -/
theorem returns_td_lambda (γ lam lastV lastNnt : α) (s : Step α) (rest : List (Step α)) :
    (gaeCol γ lam lastV lastNnt (s :: rest)).headD 0 + s.v =
      s.r + γ * (nextOf lastV lastNnt rest).2 *
        ((1 - lam) * (nextOf lastV lastNnt rest).1 +
          lam * ((nextOf lastV lastNnt rest).1 + (gaeCol γ lam lastV lastNnt rest).headD 0)) := by
  simp only [gaeCol, List.headD_cons, Rollout.delta]
  ring

/-- … and for an interior step `V_{t+1} + A_{t+1}` is exactly the stored return of step `t + 1` -/
theorem returns_td_lambda_next (γ lam lastV lastNnt : α) (s' : Step α) (rest : List (Step α)) :
    (nextOf lastV lastNnt (s' :: rest)).1 + (gaeCol γ lam lastV lastNnt (s' :: rest)).headD 0 =
      (returnsCol (gaeCol γ lam lastV lastNnt (s' :: rest)) (s' :: rest)).headD 0 :=
  add_comm _ _

/-- λ = 1: the return is the discounted Monte-Carlo sum bootstrapped with the last value (one unfolding) -/
theorem returns_lambda_one (γ lastV lastNnt : α) (s : Step α) (rest : List (Step α)) :
    (gaeCol γ 1 lastV lastNnt (s :: rest)).headD 0 + s.v =
      s.r + γ * (nextOf lastV lastNnt rest).2 *
        ((nextOf lastV lastNnt rest).1 + (gaeCol γ 1 lastV lastNnt rest).headD 0) := by
  rw [returns_td_lambda]; ring

/-- λ = 0: the return is the one-step TD target `r + γ · nnt · V_{t+1}` -/
theorem returns_lambda_zero (γ lastV lastNnt : α) (s : Step α) (rest : List (Step α)) :
    (gaeCol γ 0 lastV lastNnt (s :: rest)).headD 0 + s.v =
      s.r + γ * (nextOf lastV lastNnt rest).2 * (nextOf lastV lastNnt rest).1 := by
  rw [returns_td_lambda]; ring

/-- The advantage list has one entry per step. -/
theorem gae_length (γ lam lastV lastNnt : α) (ss : List (Step α)) :
    (gaeCol γ lam lastV lastNnt ss).length = ss.length :=
  Lemmas.gaeCol_length γ lam lastV lastNnt ss

/-- **Environments do not influence each other**: column `e` of the vectorised result is the
per-column loop run on column `e` of the inputs only. -/
theorem gae_env_independent [Inhabited α] (γ lam : α) (n : ℕ) (rew val start : List (List α))
    (lastV lastDone : List α) (e : ℕ) (he : e < n) :
    (gae γ lam n rew val start lastV lastDone)[e]'(by simp [gae]; exact he) =
      gaeCol γ lam (lastV.getD e default) (1 - lastDone.getD e default)
        ((List.zip (column rew e) (List.zip (column val e) (column start e))).map
          (fun x => Step.mk x.1 x.2.1 x.2.2)) := by
  simp only [gae, List.getElem_map, List.getElem_range]

/-- `swap_and_flatten` puts sample `(t, e)` of a rectangular `T × n` table at flat index `e*T + t` —
the same map for every field, since it does not depend on the content. (`hrect` is not needed: `column` reads a
missing entry as `default`, and so does the right-hand side.) -/
theorem swapFlatten_index {β : Type} [Inhabited β] (n : ℕ) (rows : List (List β))
    (hrect : ∀ row ∈ rows, row.length = n) (t e : ℕ) (ht : t < rows.length) (he : e < n) :
    (swapFlatten n rows).getD (e * rows.length + t) default = (rows.getD t default).getD e default := by
  exact Lemmas.swapFlatten_getD n rows t e ht he

/-- The flat index map `(t, e) ↦ e*T + t` and `unflat T` are inverse bijections between `{(t,e) | t < T, e < n}` and
`{i | i < T*n}`: `unflat` after the flat index … -/
theorem unflat_flat (T t e : ℕ) (ht : t < T) : unflat T (e * T + t) = (t, e) :=
  Lemmas.unflat_flat T t e ht

/-- … and the flat index after `unflat`, which lands in the rectangle. -/
theorem flat_unflat (T n i : ℕ) (hi : i < T * n) :
    (unflat T i).2 * T + (unflat T i).1 = i ∧ (unflat T i).1 < T ∧ (unflat T i).2 < n :=
  ⟨Nat.div_add_mod' i T, Nat.mod_lt _ (Nat.pos_of_mul_pos_right (Nat.zero_lt_of_lt hi)),
    Nat.div_lt_of_lt_mul hi⟩

/-- **Minibatches partition the pass**: for every list of indices and every batch size `b ≥ 1` the
concatenation of the yielded slices is the whole index list, in order. -/
theorem chunks_flatten {β : Type} (b : ℕ) (hb : 0 < b) (l : List β) : (chunks b l).flatten = l :=
  Lemmas.chunks_flatten b hb l

/-- Every slice has at most `b` elements and is non-empty (no empty trailing batch). -/
theorem chunks_sizes {β : Type} (b : ℕ) (hb : 0 < b) (l : List β) :
    ∀ c ∈ chunks b l, 0 < c.length ∧ c.length ≤ b :=
  Lemmas.chunksAux_sizes b hb l.length l

/-- **Each pass yields every `(step, env)` exactly once**: when `perm` is a permutation of
`0 … T*n-1`, the concatenated minibatches are a permutation of all `(t, e)` pairs
(`e` outer, `t` inner — the order is irrelevant, `List.Perm` is multiset equality). -/
theorem getBatches_perm (T n : ℕ) (perm : List ℕ) (batch : Option ℕ)
    (hperm : perm.Perm (List.range (T * n))) (hb : ∀ b, batch = some b → 0 < b) (hTn : 0 < T * n) :
    ((getBatches T n perm batch).flatten).Perm
      ((List.range n).flatMap fun e => (List.range T).map fun t => (t, e)) :=
  Lemmas.getBatches_perm T n perm batch hperm hb hTn

/-! ### Non-vacuity: the hypotheses above are met by concrete non-trivial data -/

example : (gaeCol (2 : ℤ) 3 5 1 [⟨1, 2, 1⟩, ⟨3, 4, 0⟩, ⟨5, 6, 1⟩]).length = 3 := by decide

/-- a 3-step column with an episode boundary between steps 1 and 2 and a non-done last step -/
example : gaeCol (2 : ℤ) 3 5 1 [⟨1, 2, 1⟩, ⟨3, 4, 0⟩, ⟨5, 6, 1⟩] = [1, -1, 9] := by decide

example : [2, 0, 3, 1, 5, 4].Perm (List.range (3 * 2)) := by decide

example : getBatches 3 2 [2, 0, 3, 1, 5, 4] (some 4) = [[(2, 0), (0, 0), (0, 1), (1, 0)], [(2, 1), (1, 1)]] := by
  decide

end SB3Verif.C05
