/-
Lemmas for C18 (model: `SB3Verif/Model/Monitor.lean`).

Every component is tied to the history its wrapped environment has seen by an invariant that each call keeps:
`Inv` (`Monitor`: `rewards` is `openSeg` of the calls that reached the env, and these calls obey the env's protocol),
`VInv` (`VecMonitor`: the same per sub-environment), `LInv` (the loop of `evaluate_policy`: the counter of env `i` is
`min quota (episodes ended)`, the output is `evalSpec` of the rows consumed). `Sees` is what `evaluate_policy` may
assume about its view of the raw rows; plain rows, rows through a `VecMonitor` and rows through `Monitor`s satisfy it.
-/
import SB3Verif.Model.Monitor
import Mathlib.Algebra.BigOperators.Group.List.Basic
import Mathlib.Data.List.Chain
import Mathlib.Algebra.Order.Field.Rat
import Mathlib.Tactic.Ring
import Mathlib.Tactic.NormNum.Ineq

namespace SB3Verif.Lemmas.Mon
open SB3Verif.Monitor

variable {α : Type}

theorem range_map_getD {β : Type} {n i : ℕ} {g : ℕ → β} {d : β} (hi : i < n) :
    ((List.range n).map g).getD i d = g i := by
  simp [List.getD_eq_getElem?_getD, hi]

theorem replicate_getD {β : Type} {n i : ℕ} {a d : β} (hi : i < n) : (List.replicate n a).getD i d = a := by
  simp [List.getD_eq_getElem?_getD, hi]

theorem filterMap_cons_toList {β γ : Type} (f : β → Option γ) (a : β) (l : List β) :
    (a :: l).filterMap f = (f a).toList ++ l.filterMap f := by
  rw [List.filterMap_cons]
  cases f a <;> rfl

theorem openSeg_nil : openSeg ([] : List (Call α)) = [] := rfl

theorem openSeg_snoc (calls : List (Call α)) (c : Call α) :
    openSeg (calls ++ [c]) = if c.isOpen then openSeg calls ++ (c.rew?.toList) else [] := by
  unfold openSeg
  rw [List.reverse_append, List.reverse_singleton, List.singleton_append, List.takeWhile_cons]
  cases c.isOpen
  · rfl
  · rw [if_pos rfl, if_pos rfl, List.reverse_cons, List.filterMap_append]
    cases c <;> rfl

theorem openSeg_snoc_reset (calls : List (Call α)) : openSeg (calls ++ [Call.reset]) = [] :=
  (openSeg_snoc calls _).trans (if_neg Bool.false_ne_true)

theorem openSeg_snoc_open (calls : List (Call α)) (r : α) :
    openSeg (calls ++ [Call.step r false]) = openSeg calls ++ [r] :=
  (openSeg_snoc calls _).trans (if_pos rfl)

theorem openSeg_snoc_done (calls : List (Call α)) (r : α) :
    openSeg (calls ++ [Call.step r true]) = [] :=
  (openSeg_snoc calls _).trans (if_neg Bool.false_ne_true)

section sum
variable [Add α] [Zero α]
theorem pySum_nil : pySum ([] : List α) = 0 := rfl
theorem pySum_snoc (l : List α) (r : α) : pySum (l ++ [r]) = pySum l + r := List.foldl_concat ..
end sum

theorem targets_getD (N : ℕ) {n i : ℕ} (hi : i < n) : (targets N n).getD i 0 = (N + i) / n :=
  range_map_getD hi

theorem targets_balanced (N n i : ℕ) (hi : i < n) :
    (targets N n).getD i 0 = N / n + (if n - N % n ≤ i then 1 else 0) := by
  rw [targets_getD N hi, Nat.add_div (Nat.zero_lt_of_lt hi), Nat.div_eq_of_lt hi, Nat.mod_eq_of_lt hi,
    Nat.add_zero]
  simp only [Nat.sub_le_iff_le_add']

/-- raising `N` by one shifts the `n` consecutive numerators: `N` leaves, `N + n` enters -/
theorem targets_sum_succ (N n : ℕ) (hn : 0 < n) : (targets (N + 1) n).sum = (targets N n).sum + 1 := by
  have h := List.sum_range_succ (fun i => (N + i) / n) n
  rw [List.sum_range_succ', Nat.add_div_right N hn] at h
  simp only [targets, Nat.add_right_comm N 1]
  exact Nat.add_left_cancel (h.trans (by ac_rfl))

theorem targets_sum (N n : ℕ) (hn : 0 < n) : (targets N n).sum = N := by
  induction N with
  | zero =>
    refine List.sum_eq_zero fun x hx => ?_
    obtain ⟨i, hi, rfl⟩ := List.mem_map.mp hx
    rw [Nat.zero_add]
    exact Nat.div_eq_of_lt (List.mem_range.mp hi)
  | succ N ih => rw [targets_sum_succ N n hn, ih]

/-- `needs_reset` as determined by the history: nothing happened yet, or the last call ended an episode -/
def lastDone (calls : List (Call α)) : Bool :=
  match calls.getLast? with
  | none => true
  | some c => c.isDone

theorem lastDone_snoc (calls : List (Call α)) (c : Call α) : lastDone (calls ++ [c]) = c.isDone := by
  rw [lastDone, List.getLast?_concat]

theorem lastDone_of_mem {calls : List (Call α)} {c : Call α} (h : c ∈ calls.getLast?) : lastDone calls = c.isDone := by
  rw [lastDone, Option.mem_def.mp h]

/-- what the monitor's state knows about the history the wrapped env has seen, and the protocol that history
obeys -/
structure Inv (cfg : MonCfg) (m : Mon α) (calls : List (Call α)) : Prop where
  rewards : m.needsReset = false → m.rewards = openSeg calls
  needsReset : m.needsReset = lastDone calls
  head : ∀ c ∈ calls.head?, c = Call.reset
  doneReset : calls.IsChain (fun a b => a.isDone = true → b = Call.reset)
  resetDone : cfg.allowEarly = false → calls.IsChain (fun a b => b = Call.reset → a.isDone = true)

theorem inv_init (cfg : MonCfg) : Inv cfg (Mon.init : Mon α) [] :=
  ⟨nofun, rfl, nofun, List.IsChain.nil, fun _ => List.IsChain.nil⟩

theorem chain_snoc {R : Call α → Call α → Prop} {calls : List (Call α)} {c : Call α}
    (h : calls.IsChain R) (hl : ∀ x ∈ calls.getLast?, R x c) : (calls ++ [c]).IsChain R :=
  h.append (.singleton c) fun x hx y hy => by
    rw [List.head?_singleton, Option.mem_some_iff] at hy
    exact hy ▸ hl x hx

/-- a rejected call: the env is not called, `rewards` and `needs_reset` stay -/
theorem Inv.of_eq {cfg : MonCfg} {m m' : Mon α} {calls : List (Call α)} (h : Inv cfg m calls)
    (hr : m'.rewards = m.rewards) (hn : m'.needsReset = m.needsReset) : Inv cfg m' calls :=
  ⟨fun hf => hr ▸ h.rewards (hn ▸ hf), hn ▸ h.needsReset, h.head, h.doneReset, h.resetDone⟩

/-- an accepted `reset`: with `allow_early_resets=False` it is only accepted when `needs_reset`, i.e. after an
episode end -/
theorem Inv.snoc_reset {cfg : MonCfg} {m m' : Mon α} {calls : List (Call α)} (h : Inv cfg m calls)
    (hA : cfg.allowEarly = false → m.needsReset = true) (hr : m'.rewards = []) (hn : m'.needsReset = false) :
    Inv cfg m' (calls ++ [Call.reset]) where
  rewards _ := hr.trans (openSeg_snoc_reset calls).symm
  needsReset := hn.trans (lastDone_snoc calls Call.reset).symm
  head := by
    cases calls with
    | nil => exact fun _ hc => (Option.mem_some_iff.mp hc).symm
    | cons a as => exact h.head
  doneReset := chain_snoc h.doneReset fun _ _ _ => rfl
  resetDone hE := chain_snoc (h.resetDone hE) fun x hx _ =>
    (lastDone_of_mem hx).symm.trans (h.needsReset.symm.trans (hA hE))

/-- an accepted `step`: it is only accepted when `needs_reset` is off, so the history is non-empty and its last
call did not end an episode -/
theorem Inv.snoc_step {cfg : MonCfg} {m m' : Mon α} {calls : List (Call α)} {r : α} {d : Bool} (h : Inv cfg m calls)
    (hN : m.needsReset = false) (hr : m'.rewards = m.rewards ++ [r]) (hn : m'.needsReset = d) :
    Inv cfg m' (calls ++ [Call.step r d]) where
  rewards hf := by
    obtain rfl : d = false := hn.symm.trans hf
    rw [hr, h.rewards hN, openSeg_snoc_open]
  needsReset := by rw [hn, lastDone_snoc]; cases d <;> rfl
  head := by
    cases calls with
    | nil => exact nomatch (show true = false from h.needsReset.symm.trans hN)
    | cons a as => exact h.head
  doneReset := chain_snoc h.doneReset fun x hx hxd =>
    nomatch hxd.symm.trans ((lastDone_of_mem hx).symm.trans (h.needsReset.symm.trans hN))
  resetDone hE := chain_snoc (h.resetDone hE) fun _ _ hc => nomatch hc

/-- `m'` has recorded the episodes `eps` (file rows, `episode_lengths`, rounded `episode_returns`) on top of
what `m` had -/
def Recorded (rnd : α → α) (m m' : Mon α) (eps : List (EpInfo α)) : Prop :=
  m'.rows = m.rows ++ eps ∧ m'.lengths = m.lengths ++ eps.map (·.l) ∧
  m'.returns.map rnd = m.returns.map rnd ++ eps.map (·.r)

theorem Recorded.of_eq {rnd : α → α} {m m' : Mon α} (h1 : m'.rows = m.rows) (h2 : m'.lengths = m.lengths)
    (h3 : m'.returns = m.returns) : Recorded rnd m m' [] :=
  ⟨h1.trans (List.append_nil _).symm, h2.trans (List.append_nil _).symm,
    (congrArg (List.map rnd) h3).trans (List.append_nil _).symm⟩

theorem Recorded.trans {rnd : α → α} {m m' m'' : Mon α} {a b : List (EpInfo α)} (h : Recorded rnd m m' a)
    (h' : Recorded rnd m' m'' b) : Recorded rnd m m'' (a ++ b) := by
  obtain ⟨a1, a2, a3⟩ := h
  obtain ⟨b1, b2, b3⟩ := h'
  exact ⟨by rw [b1, a1, List.append_assoc], by rw [b2, a2, List.map_append, List.append_assoc],
    by rw [b3, a3, List.map_append, List.append_assoc]⟩

section monitor
variable [Add α] [Zero α] (cfg : MonCfg) (rnd : α → α)

theorem bindResetKw_ok (keys : List String) (kw cur : KV)
    (h : keys.all (fun k => (kvGet kw k).isSome) = true) : (bindResetKw keys kw cur).2 = true := by
  induction keys generalizing cur with
  | nil => rfl
  | cons k ks ih =>
    rw [List.all_cons, Bool.and_eq_true] at h
    unfold bindResetKw
    cases hv : kvGet kw k with
    | none => rw [hv] at h; exact nomatch h.1
    | some v => exact ih _ h.2

theorem infoExtra_ok (keys : List String) (info acc : KV)
    (h : keys.all (fun k => (kvGet info k).isSome) = true) : (infoExtra keys info acc).isSome = true := by
  induction keys generalizing acc with
  | nil => rfl
  | cons k ks ih =>
    rw [List.all_cons, Bool.and_eq_true] at h
    unfold infoExtra
    cases hv : kvGet info k with
    | none => rw [hv] at h; exact nomatch h.1
    | some v => exact ih _ h.2

theorem step_reset_cases (m : Mon α) (kw : KV) :
    (cfg.allowEarly = false ∧ m.needsReset = false ∧ m.step cfg rnd (.reset kw) = (m, .errEarlyReset)) ∨
    (cfg.allowEarly = false → m.needsReset = true) ∧
      ((bindResetKw cfg.resetKeys kw m.resetInfo).2 = false ∧ m.step cfg rnd (.reset kw) =
          ({ m with resetInfo := (bindResetKw cfg.resetKeys kw m.resetInfo).1 }, .errMissingKw) ∨
       (bindResetKw cfg.resetKeys kw m.resetInfo).2 = true ∧ m.step cfg rnd (.reset kw) =
          ({ m with rewards := [], needsReset := false,
                    resetInfo := (bindResetKw cfg.resetKeys kw m.resetInfo).1 }, .resetOk)) := by
  rw [Mon.step]
  by_cases hE : (!cfg.allowEarly && !m.needsReset) = true
  · rw [if_pos hE]
    simp only [Bool.and_eq_true, Bool.not_eq_true'] at hE
    exact Or.inl ⟨hE.1, hE.2, rfl⟩
  · rw [if_neg hE]
    refine Or.inr ⟨fun hA => by simpa [hA] using hE, ?_⟩
    rcases bindResetKw cfg.resetKeys kw m.resetInfo with ⟨ri, _ | _⟩
    · exact Or.inl ⟨rfl, rfl⟩
    · exact Or.inr ⟨rfl, rfl⟩

theorem step_step_cases (m : Mon α) (r : α) (te tr : Bool) (info : KV) :
    (m.needsReset = true ∧ m.step cfg rnd (.step r te tr info) = (m, .errNeedsReset)) ∨
    m.needsReset = false ∧
      ((te || tr) = false ∧ m.step cfg rnd (.step r te tr info) =
          ({ m with rewards := m.rewards ++ [r], totalSteps := m.totalSteps + 1 }, .stepOk none) ∨
       (te || tr) = true ∧
        (infoExtra cfg.infoKeys info [] = none ∧ m.step cfg rnd (.step r te tr info) =
            ({ m with rewards := m.rewards ++ [r], needsReset := true }, .errInfoKey) ∨
         ∃ ex, infoExtra cfg.infoKeys info [] = some ex ∧ m.step cfg rnd (.step r te tr info) =
            ({ m with rewards := m.rewards ++ [r], needsReset := true,
                      returns := m.returns ++ [pySum (m.rewards ++ [r])],
                      lengths := m.lengths ++ [(m.rewards ++ [r]).length],
                      rows := m.rows ++ [⟨rnd (pySum (m.rewards ++ [r])), (m.rewards ++ [r]).length, kvUpdate ex m.resetInfo⟩],
                      totalSteps := m.totalSteps + 1 },
             .stepOk (some ⟨rnd (pySum (m.rewards ++ [r])), (m.rewards ++ [r]).length, kvUpdate ex m.resetInfo⟩)))) := by
  rw [Mon.step]
  by_cases hN : m.needsReset = true
  · exact Or.inl ⟨hN, if_pos hN⟩
  · refine Or.inr ⟨eq_false_of_ne_true hN, ?_⟩
    rw [if_neg hN]
    by_cases hd : (te || tr) = true
    · rw [if_pos hd]
      refine Or.inr ⟨hd, ?_⟩
      cases infoExtra cfg.infoKeys info [] with
      | none => exact Or.inl ⟨rfl, rfl⟩
      | some ex => exact Or.inr ⟨ex, rfl, rfl⟩
    · exact Or.inl ⟨eq_false_of_ne_true hd, if_neg hd⟩

theorem run_nil (m : Mon α) : Mon.run cfg rnd m [] = (m, []) := rfl

theorem run_cons (m : Mon α) (op : Op α) (ops : List (Op α)) :
    Mon.run cfg rnd m (op :: ops) =
      ((Mon.run cfg rnd (m.step cfg rnd op).1 ops).1, (m.step cfg rnd op).2 :: (Mon.run cfg rnd (m.step cfg rnd op).1 ops).2) := rfl

theorem run_append (m : Mon α) (a b : List (Op α)) :
    Mon.run cfg rnd m (a ++ b) =
      ((Mon.run cfg rnd (Mon.run cfg rnd m a).1 b).1,
       (Mon.run cfg rnd m a).2 ++ (Mon.run cfg rnd (Mon.run cfg rnd m a).1 b).2) := by
  induction a generalizing m with
  | nil => rfl
  | cons op a ih => simp [run_cons, ih]

theorem trace_nil (m : Mon α) : Mon.trace cfg rnd m [] = [] := rfl

theorem trace_cons (m : Mon α) (op : Op α) (ops : List (Op α)) :
    Mon.trace cfg rnd m (op :: ops) =
      (callOf op (m.step cfg rnd op).2).toList ++ Mon.trace cfg rnd (m.step cfg rnd op).1 ops := by
  simp only [Mon.trace, run_cons, List.zip_cons_cons, filterMap_cons_toList]

theorem trace_append (m : Mon α) (a b : List (Op α)) :
    Mon.trace cfg rnd m (a ++ b) = Mon.trace cfg rnd m a ++ Mon.trace cfg rnd (Mon.run cfg rnd m a).1 b := by
  induction a generalizing m with
  | nil => rfl
  | cons op a ih => simp [trace_cons, run_cons, ih]

theorem inv_step {m : Mon α} {calls : List (Call α)} (op : Op α) (h : Inv cfg m calls) :
    Inv cfg (m.step cfg rnd op).1 (calls ++ (callOf op (m.step cfg rnd op).2).toList) := by
  cases op with
  | reset kw =>
    rcases step_reset_cases cfg rnd m kw with ⟨_, _, e⟩ | ⟨hA, ⟨_, e⟩ | ⟨_, e⟩⟩ <;> rw [e]
    · exact (List.append_nil calls).symm ▸ h
    · exact (List.append_nil calls).symm ▸ h.of_eq rfl rfl
    · exact h.snoc_reset hA rfl rfl
  | step r te tr info =>
    rcases step_step_cases cfg rnd m r te tr info with
      ⟨_, e⟩ | ⟨hN, ⟨hd, e⟩ | ⟨hd, ⟨_, e⟩ | ⟨ex, _, e⟩⟩⟩ <;> rw [e]
    · exact (List.append_nil calls).symm ▸ h
    · exact h.snoc_step hN rfl (hN.trans hd.symm)
    · exact h.snoc_step hN rfl hd.symm
    · exact h.snoc_step hN rfl hd.symm

theorem inv_run {m : Mon α} {calls : List (Call α)} (ops : List (Op α)) (h : Inv cfg m calls) :
    Inv cfg (Mon.run cfg rnd m ops).1 (calls ++ Mon.trace cfg rnd m ops) := by
  induction ops generalizing m calls with
  | nil => exact (List.append_nil calls).symm ▸ h
  | cons op ops ih =>
    rw [run_cons, trace_cons, ← List.append_assoc]
    exact ih (inv_step cfg rnd op h)

theorem protocol (ops : List (Op α)) :
    (∀ c ∈ (Mon.trace cfg rnd Mon.init ops).head?, c = Call.reset) ∧
    (Mon.trace cfg rnd Mon.init ops).IsChain (fun a b => a.isDone = true → b = Call.reset) ∧
    (cfg.allowEarly = false →
      (Mon.trace cfg rnd Mon.init ops).IsChain (fun a b => b = Call.reset → a.isDone = true)) := by
  have hinv := inv_run cfg rnd ops (inv_init cfg)
  rw [List.nil_append] at hinv
  exact ⟨hinv.head, hinv.doneReset, hinv.resetDone⟩

theorem outs_getElem? (m : Mon α) (ops : List (Op α)) (k : ℕ) :
    (Mon.run cfg rnd m ops).2[k]? = ops[k]?.map fun op => ((Mon.run cfg rnd m (ops.take k)).1.step cfg rnd op).2 := by
  induction ops generalizing m k with
  | nil => rfl
  | cons op ops ih =>
    cases k with
    | zero => rfl
    | succ k => exact ih _ k

theorem step_emits {m : Mon α} {op : Op α} {ep : EpInfo α} (h : (m.step cfg rnd op).2 = Out.stepOk (some ep)) :
    ∃ r te tr info, op = Op.step r te tr info ∧ m.needsReset = false ∧ (te || tr) = true ∧
      ep.r = rnd (pySum (m.rewards ++ [r])) ∧ ep.l = m.rewards.length + 1 := by
  cases op with
  | reset kw =>
    rcases step_reset_cases cfg rnd m kw with ⟨_, _, e⟩ | ⟨_, ⟨_, e⟩ | ⟨_, e⟩⟩ <;> rw [e] at h <;> cases h
  | step r te tr info =>
    rcases step_step_cases cfg rnd m r te tr info with
      ⟨_, e⟩ | ⟨hN, ⟨_, e⟩ | ⟨hd, ⟨_, e⟩ | ⟨ex, _, e⟩⟩⟩ <;> rw [e] at h <;> cases h
    exact ⟨r, te, tr, info, rfl, hN, hd, rfl, List.length_append⟩

theorem step_rows (m : Mon α) (op : Op α) :
    Recorded rnd m (m.step cfg rnd op).1 (m.step cfg rnd op).2.ep?.toList := by
  cases op with
  | reset kw =>
    rcases step_reset_cases cfg rnd m kw with ⟨_, _, e⟩ | ⟨_, ⟨_, e⟩ | ⟨_, e⟩⟩ <;> rw [e] <;>
      exact Recorded.of_eq rfl rfl rfl
  | step r te tr info =>
    rcases step_step_cases cfg rnd m r te tr info with
      ⟨_, e⟩ | ⟨_, ⟨_, e⟩ | ⟨_, ⟨_, e⟩ | ⟨ex, _, e⟩⟩⟩ <;> rw [e]
    · exact Recorded.of_eq rfl rfl rfl
    · exact Recorded.of_eq rfl rfl rfl
    · exact Recorded.of_eq rfl rfl rfl
    · exact ⟨rfl, rfl, List.map_append⟩

theorem run_rows (m : Mon α) (ops : List (Op α)) :
    Recorded rnd m (Mon.run cfg rnd m ops).1 ((Mon.run cfg rnd m ops).2.filterMap Out.ep?) := by
  induction ops generalizing m with
  | nil => exact Recorded.of_eq rfl rfl rfl
  | cons op ops ih =>
    rw [run_cons, filterMap_cons_toList]
    exact (step_rows cfg rnd m op).trans (ih _)

theorem step_presence (m : Mon α) {r : α} {te tr : Bool} {info : KV}
    (hinfo : (Op.step r te tr info).infoOk cfg = true) :
    (m.step cfg rnd (Op.step r te tr info)).2 = Out.errNeedsReset ∨
    ∃ ep, (m.step cfg rnd (Op.step r te tr info)).2 = Out.stepOk ep ∧ ep.isSome = (te || tr) := by
  rcases step_step_cases cfg rnd m r te tr info with
    ⟨_, e⟩ | ⟨_, ⟨hd, e⟩ | ⟨hd, ⟨hx, e⟩ | ⟨ex, _, e⟩⟩⟩ <;> rw [e]
  · exact Or.inl rfl
  · exact Or.inr ⟨_, rfl, hd.symm⟩
  · have := infoExtra_ok cfg.infoKeys info [] (by simpa [Op.infoOk, hd] using hinfo)
    rw [hx] at this
    cases this
  · exact Or.inr ⟨_, rfl, hd.symm⟩

end monitor

/-! ### Why the order inside `Monitor.reset` matters (F-C18-a, fixed in /repo by 43bb017)

Before the fix `reset` cleared `self.rewards` / `needs_reset` *before* the keyword loop. `stepOld` is that
old behaviour; on the history below it reports an episode of return 2 and length 1 although the wrapped
environment saw one episode of two steps with return 3 — the invariant `Inv` does not survive a rejected
reset. (Only used for this remark: the driver and all property theorems use `Mon.step`.) -/

def stepOld [Add α] [Zero α] (cfg : MonCfg) (rnd : α → α) (m : Mon α) : Op α → Mon α × Out α
  | .reset kw =>
    if !cfg.allowEarly && !m.needsReset then (m, .errEarlyReset)
    else
      let (ri, ok) := bindResetKw cfg.resetKeys kw m.resetInfo
      ({ m with rewards := [], needsReset := false, resetInfo := ri }, if ok then .resetOk else .errMissingKw)
  | op => m.step cfg rnd op

def runOld [Add α] [Zero α] (cfg : MonCfg) (rnd : α → α) : Mon α → List (Op α) → Mon α × List (Out α)
  | m, [] => (m, [])
  | m, op :: ops =>
    let r1 := stepOld cfg rnd m op
    let r2 := runOld cfg rnd r1.1 ops
    (r2.1, r1.2 :: r2.2)

def cexCfg : MonCfg := { allowEarly := true, infoKeys := [], resetKeys := ["k"] }
def cexOps : List (Op Int) := [.reset [("k", 1)], .step 1 false false [], .reset [], .step 2 true false []]

section vec
variable [Add α] [Zero α] (n : ℕ) (keys : List String)

theorem vrun_nil (v : VecMon α) : VecMon.run n keys v [] = (v, []) := rfl

theorem vrun_cons (v : VecMon α) (op : VOp α) (ops : List (VOp α)) :
    VecMon.run n keys v (op :: ops) =
      ((VecMon.run n keys (v.step n keys op).1 ops).1,
       (v.step n keys op).2 :: (VecMon.run n keys (v.step n keys op).1 ops).2) := rfl

theorem vrun_outs_length (v : VecMon α) (ops : List (VOp α)) : (VecMon.run n keys v ops).2.length = ops.length := by
  induction ops generalizing v with
  | nil => rfl
  | cons op ops ih => exact congrArg Nat.succ (ih _)

theorem vouts_getElem? (v : VecMon α) (ops : List (VOp α)) (k : ℕ) :
    (VecMon.run n keys v ops).2[k]? =
      ops[k]?.map fun op => ((VecMon.run n keys v (ops.take k)).1.step n keys op).2 := by
  induction ops generalizing v k with
  | nil => rfl
  | cons op ops ih =>
    cases k with
    | zero => rfl
    | succ k => exact ih _ k

/-- `step_wait` for one sub-environment whose accumulators hold the running episode of its history `cs` -/
theorem vecEnvStep_spec (cs : List (Call α)) (o : Raw α) :
    vecEnvStep keys (pySum (openSeg cs)) (openSeg cs).length o =
      (pySum (openSeg (cs ++ [Call.step o.rew o.done])), (openSeg (cs ++ [Call.step o.rew o.done])).length,
       if o.done then some ⟨pySum (openSeg cs ++ [o.rew]), (openSeg cs).length + 1,
         (infoExtra keys o.info []).getD []⟩ else none) := by
  unfold vecEnvStep
  cases o.done
  · simp [openSeg_snoc_open, pySum_snoc]
  · simp [openSeg_snoc_done, pySum_snoc, pySum_nil]

/-- accumulators of every env = running episode of that env according to the history -/
def VInv (v : VecMon α) (ops : List (VOp α)) : Prop :=
  ∀ i, i < n → v.rets.getD i 0 = pySum (openSeg (vtrace i ops)) ∧ v.lens.getD i 0 = (openSeg (vtrace i ops)).length

theorem vinv_init : VInv n (VecMon.init n : VecMon α) [] := fun _ hi =>
  ⟨replicate_getD hi, replicate_getD hi⟩

theorem vstep_spec {v : VecMon α} {ops : List (VOp α)} (h : VInv n v ops) (row : List (Raw α)) {i : ℕ}
    (hi : i < n) {o : Raw α} (ho : row.getD i ⟨0, false, []⟩ = o) :
    (v.step n keys (.step row)).1.rets.getD i 0 = pySum (openSeg (vtrace i ops ++ [Call.step o.rew o.done])) ∧
    (v.step n keys (.step row)).1.lens.getD i 0 = (openSeg (vtrace i ops ++ [Call.step o.rew o.done])).length ∧
    (v.step n keys (.step row)).2.getD i none =
      if o.done then some ⟨pySum (openSeg (vtrace i ops) ++ [o.rew]), (openSeg (vtrace i ops)).length + 1,
        (infoExtra keys o.info []).getD []⟩ else none := by
  simp only [VecMon.step, List.map_map, range_map_getD hi, Function.comp, (h i hi).1, (h i hi).2, ho,
    vecEnvStep_spec, and_self]

theorem vinv_step {v : VecMon α} {ops : List (VOp α)} (op : VOp α) (h : VInv n v ops) :
    VInv n (v.step n keys op).1 (ops ++ [op]) := by
  intro i hi
  have ht : vtrace i (ops ++ [op]) = vtrace i ops ++ vtrace i [op] := List.map_append
  rw [ht]
  cases op with
  | reset =>
    have : openSeg (vtrace i ops ++ vtrace i [VOp.reset]) = ([] : List α) := openSeg_snoc_reset _
    rw [this]
    exact ⟨replicate_getD hi, replicate_getD hi⟩
  | step row =>
    obtain ⟨hret, hlen, _⟩ := vstep_spec n keys h row hi rfl
    exact ⟨hret, hlen⟩

theorem vinv_run {v : VecMon α} {pre : List (VOp α)} (ops : List (VOp α)) (h : VInv n v pre) :
    VInv n (VecMon.run n keys v ops).1 (pre ++ ops) := by
  induction ops generalizing v pre with
  | nil => exact (List.append_nil pre).symm ▸ h
  | cons op ops ih =>
    rw [vrun_cons, List.append_cons]
    exact ih (vinv_step n keys op h)

theorem vstep_rows (v : VecMon α) (op : VOp α) :
    (v.step n keys op).1.rows = v.rows ++ (v.step n keys op).2.filterMap id ∧
    (v.step n keys op).1.count = v.count + ((v.step n keys op).2.filterMap id).length := by
  cases op with
  | reset => exact ⟨(List.append_nil _).symm, rfl⟩
  | step row => exact ⟨rfl, rfl⟩

theorem vrun_rows (v : VecMon α) (ops : List (VOp α)) :
    (VecMon.run n keys v ops).1.rows = v.rows ++ (VecMon.run n keys v ops).2.flatMap (fun o => o.filterMap id) ∧
    (VecMon.run n keys v ops).1.count = v.count + ((VecMon.run n keys v ops).2.flatMap (fun o => o.filterMap id)).length := by
  induction ops generalizing v with
  | nil => exact ⟨(List.append_nil _).symm, rfl⟩
  | cons op ops ih =>
    obtain ⟨h1, h2⟩ := ih (v.step n keys op).1
    obtain ⟨s1, s2⟩ := vstep_rows n keys v op
    rw [vrun_cons, List.flatMap_cons]
    exact ⟨by rw [h1, s1, List.append_assoc], by rw [h2, s2, List.length_append, Nat.add_assoc]⟩

end vec

section evalcount
variable [Add α] [Zero α]

theorem envStep_idle {mon : Bool} {tg : ℕ} {e : EnvAcc α} {o : StepOut α} (h : ¬e.count < tg ∨ o.done = false) :
    envStep mon tg e o = (⟨e.count, e.curRet + o.rew, e.curLen + 1⟩, none) := by
  unfold envStep
  dsimp only
  rcases h with h | h
  · rw [if_neg h]
  · rw [h, if_neg Bool.false_ne_true, ite_self]

theorem envStep_plain {tg : ℕ} {e : EnvAcc α} {o : StepOut α} (h1 : e.count < tg) (h2 : o.done = true) :
    envStep false tg e o = (⟨e.count + 1, 0, 0⟩, some (e.curRet + o.rew, e.curLen + 1)) := by
  unfold envStep
  rw [if_pos h1, if_pos h2]; rfl

theorem envStep_mon {tg : ℕ} {e : EnvAcc α} {o : StepOut α} (h1 : e.count < tg) (h2 : o.done = true) :
    envStep true tg e o = (⟨e.count + (if o.ep.isSome then 1 else 0), 0, 0⟩, o.ep) := by
  unfold envStep
  rw [if_pos h1, if_pos h2, if_pos rfl]
  cases o.ep <;> rfl

/-- what a step `p` does to the counter of `e` under the quota `tg`: it rises by one exactly when a result is
returned, and stays within the quota -/
structure CountStep (tg : ℕ) (e : EnvAcc α) (p : EnvAcc α × Option (α × ℕ)) : Prop where
  count : p.1.count = e.count + (if p.2.isSome then 1 else 0)
  le : e.count ≤ tg → p.1.count ≤ tg

theorem envStep_count (mon : Bool) (tg : ℕ) (e : EnvAcc α) (o : StepOut α) : CountStep tg e (envStep mon tg e o) := by
  by_cases h : e.count < tg ∧ o.done = true
  · cases mon
    · rw [envStep_plain h.1 h.2]; exact ⟨rfl, fun _ => h.1⟩
    · rw [envStep_mon h.1 h.2]; exact ⟨rfl, fun _ => by dsimp only; split <;> omega⟩
  · rw [envStep_idle (by rw [← Bool.not_eq_true]; exact not_and_or.mp h)]
    exact ⟨rfl, id⟩

theorem sum_map_add_length_filterMap {ι γ : Type} {l : List ι} {c c' : ι → ℕ} {g : ι → Option γ}
    (h : ∀ i ∈ l, c' i = c i + if (g i).isSome then 1 else 0) :
    (l.map c').sum = (l.map c).sum + (l.filterMap g).length := by
  induction l with
  | nil => rfl
  | cons a l ih =>
    rw [List.map_cons, List.sum_cons, List.map_cons, List.sum_cons, List.filterMap_cons, h a List.mem_cons_self,
      ih fun i hi => h i (List.mem_cons_of_mem a hi)]
    cases g a
    · exact (Nat.add_assoc ..).symm
    · exact (Nat.add_add_add_comm ..).trans (congrArg _ (Nat.add_comm 1 _))

/-- the counting half of the loop of `evaluate_policy`, which needs nothing of the environments' answers: no counter
exceeds its quota, and the counters add up to the number of results returned -/
structure CountInv (n : ℕ) (tg : List ℕ) (s : EvalSt α) : Prop where
  le : ∀ i, i < n → (s.envs.getD i ⟨0, 0, 0⟩).count ≤ tg.getD i 0
  out : s.out.length = ((List.range n).map (fun i => (s.envs.getD i ⟨0, 0, 0⟩).count)).sum

omit [Add α] in
theorem countInv_init (n : ℕ) (tg : List ℕ) : CountInv n tg (EvalSt.init n : EvalSt α) := by
  have h0 : ∀ i, i < n → ((EvalSt.init n : EvalSt α).envs.getD i ⟨0, 0, 0⟩).count = 0 := fun i hi =>
    congrArg EnvAcc.count (replicate_getD hi)
  refine ⟨fun i hi => (h0 i hi).trans_le (Nat.zero_le _), (List.sum_eq_zero fun x hx => ?_).symm⟩
  obtain ⟨i, hi, rfl⟩ := List.mem_map.mp hx
  exact h0 i (List.mem_range.mp hi)

theorem rowStep_envs_getD {mon : Bool} {n : ℕ} {tg : List ℕ} {s : EvalSt α} {row : List (StepOut α)} {i : ℕ} (hi : i < n) :
    (rowStep mon n tg s row).envs.getD i ⟨0, 0, 0⟩ =
      (envStep mon (tg.getD i 0) (s.envs.getD i ⟨0, 0, 0⟩) (row.getD i ⟨0, false, none⟩)).1 := by
  rw [rowStep, List.map_map]
  exact range_map_getD hi

theorem countInv_rowStep {n : ℕ} {tg : List ℕ} {s : EvalSt α} (mon : Bool) (row : List (StepOut α))
    (h : CountInv n tg s) : CountInv n tg (rowStep mon n tg s row) := by
  refine ⟨fun i hi => ?_, ?_⟩
  · rw [rowStep_envs_getD hi]
    exact (envStep_count mon _ _ _).le (h.le i hi)
  · rw [sum_map_add_length_filterMap fun i hi =>
        (congrArg EnvAcc.count (rowStep_envs_getD (List.mem_range.mp hi))).trans (envStep_count mon _ _ _).count,
      ← h.out, rowStep, List.length_append, List.filterMap_map]
    rfl

theorem countInv_loop {n : ℕ} {tg : List ℕ} {s : EvalSt α} (mon : Bool) (rows : List (List (StepOut α)))
    (h : CountInv n tg s) : CountInv n tg (evalLoop mon n tg s rows) := by
  induction rows generalizing s with
  | nil => exact h
  | cons row rest ih =>
    unfold evalLoop
    split
    · exact ih (countInv_rowStep mon row h)
    · exact h

end evalcount

/-- number of episodes that ended in a call history -/
def dones (cs : List (Call α)) : ℕ := cs.countP Call.isDone

theorem dones_nil : dones ([] : List (Call α)) = 0 := rfl

theorem dones_append (a b : List (Call α)) : dones (a ++ b) = dones a + dones b := List.countP_append

theorem dones_snoc (a : List (Call α)) (r : α) (d : Bool) :
    dones (a ++ [Call.step r d]) = dones a + (if d then 1 else 0) := by
  rw [dones_append]; cases d <;> rfl

section evalspec
variable [Add α] [Zero α]

omit [Add α] in
theorem colCalls_append (i : ℕ) (a b : List (List (Raw α))) : colCalls i (a ++ b) = colCalls i a ++ colCalls i b :=
  List.map_append

omit [Add α] in
theorem colCalls_length (i : ℕ) (a : List (List (Raw α))) : (colCalls i a).length = a.length := List.length_map _

theorem specEmit_append_left (tg : ℕ) {a : List (Call α)} (b : List (Call α)) {t : ℕ} (ht : t < a.length) :
    specEmit tg (a ++ b) t = specEmit tg a t := by
  unfold specEmit
  rw [List.getElem?_append_left ht, List.take_append_of_le_length (Nat.le_of_lt ht)]

theorem specEmit_snoc_open (tg : ℕ) (a : List (Call α)) (r : α) :
    specEmit tg (a ++ [Call.step r false]) a.length = none := by
  unfold specEmit
  rw [List.getElem?_concat_length]

theorem specEmit_snoc_done (tg : ℕ) (a : List (Call α)) (r : α) :
    specEmit tg (a ++ [Call.step r true]) a.length =
      if dones a < tg then some (pySum (openSeg a ++ [r]), (openSeg a).length + 1) else none := by
  unfold specEmit
  rw [List.getElem?_concat_length, List.take_left' rfl]
  rfl

theorem specEmit_none_of_quota (tg : ℕ) (a b : List (Call α)) (t : ℕ) (ht : a.length ≤ t) (hq : tg ≤ dones a) :
    specEmit tg (a ++ b) t = none := by
  unfold specEmit
  have : dones a ≤ dones ((a ++ b).take t) := by
    rw [List.take_append, List.take_of_length_le ht, dones_append]
    exact Nat.le_add_right _ _
  split
  · exact if_neg (Nat.not_lt.mpr (hq.trans this))
  · rfl

theorem evalSpec_append (n : ℕ) (tg : List ℕ) (pre rest : List (List (Raw α))) :
    evalSpec n tg (pre ++ rest) = evalSpec n tg pre ++ (List.range rest.length).flatMap fun t =>
      (List.range n).filterMap fun i => specEmit (tg.getD i 0) (colCalls i (pre ++ rest)) (pre.length + t) := by
  unfold evalSpec
  rw [List.length_append, List.range_add, List.flatMap_append, List.flatMap_map]
  congr 1
  refine List.flatMap_congr fun t ht => List.filterMap_congr fun i _ => ?_
  rw [colCalls_append, specEmit_append_left _ _ (by rw [colCalls_length]; exact List.mem_range.mp ht)]

theorem evalSpec_snoc (n : ℕ) (tg : List ℕ) (pre : List (List (Raw α))) (row : List (Raw α)) :
    evalSpec n tg (pre ++ [row]) = evalSpec n tg pre ++
      (List.range n).filterMap fun i => specEmit (tg.getD i 0) (colCalls i (pre ++ [row])) pre.length := by
  rw [evalSpec_append]
  exact congrArg _ (List.flatMap_singleton _ 0)

theorem evalSpec_append_of_quota (n : ℕ) (tg : List ℕ) (pre rest : List (List (Raw α)))
    (hq : ∀ i, i < n → tg.getD i 0 ≤ dones (colCalls i pre)) :
    evalSpec n tg (pre ++ rest) = evalSpec n tg pre := by
  rw [evalSpec_append, List.append_right_eq_self, List.flatMap_eq_nil_iff]
  intro t _
  rw [List.filterMap_eq_nil_iff]
  intro i hi
  rw [colCalls_append]
  exact specEmit_none_of_quota _ _ _ _ (by rw [colCalls_length]; exact Nat.le_add_right _ _) (hq i (List.mem_range.mp hi))

/-- what the accumulators of one env know about that env's history (`cs`) -/
def EInv (mon : Bool) (tg : ℕ) (e : EnvAcc α) (cs : List (Call α)) : Prop :=
  e.count = min tg (dones cs) ∧
  (mon = false → e.count < tg → e.curRet = pySum (openSeg cs) ∧ e.curLen = (openSeg cs).length)

/-- one env sees `o` where the raw step had reward `r` and `done = d` -/
theorem envStep_spec {mon : Bool} {f : α → α} {tg : ℕ} {e : EnvAcc α} {cs : List (Call α)} {o : StepOut α} {r : α}
    {d : Bool} (h : EInv mon tg e cs) (hr : mon = false → o.rew = r) (hd : o.done = d)
    (hep : mon = true → o.ep = if d then
      some (f (pySum (openSeg cs ++ [r])), (openSeg cs).length + 1) else none) :
    EInv mon tg (envStep mon tg e o).1 (cs ++ [Call.step r d]) ∧
    (envStep mon tg e o).2 =
      (specEmit tg (cs ++ [Call.step r d]) cs.length).map fun p => ((if mon then f else id) p.1, p.2) := by
  subst hd
  obtain ⟨hc, ha⟩ := h
  unfold EInv
  rw [dones_snoc]
  by_cases hlt : dones cs < tg
  · -- below the quota: the counter is the number of finished episodes
    have hc' : e.count = dones cs := hc.trans (Nat.min_eq_right hlt.le)
    have h1 : e.count < tg := hc' ▸ hlt
    cases hd : o.done with
    | false =>
      rw [envStep_idle (Or.inr hd), if_neg Bool.false_ne_true, specEmit_snoc_open]
      refine ⟨⟨hc, fun hm _ => ?_⟩, rfl⟩
      rw [openSeg_snoc_open, pySum_snoc, List.length_append, ← hr hm]
      exact ⟨congrArg (· + o.rew) (ha hm h1).1, congrArg (· + 1) (ha hm h1).2⟩
    | true =>
      rw [if_pos rfl, specEmit_snoc_done, if_pos hlt, openSeg_snoc_done, pySum_snoc, Nat.min_eq_right hlt, ← hc']
      cases mon with
      | false =>
        rw [envStep_plain h1 hd, (ha rfl h1).1, (ha rfl h1).2, hr rfl]
        exact ⟨⟨rfl, fun _ _ => ⟨rfl, rfl⟩⟩, rfl⟩
      | true =>
        rw [envStep_mon h1 hd, hep rfl, hd, if_pos rfl, pySum_snoc]
        exact ⟨⟨rfl, nofun⟩, rfl⟩
  · -- quota reached: nothing changes any more
    have hle : tg ≤ dones cs := Nat.le_of_not_lt hlt
    have hc' : e.count = tg := hc.trans (Nat.min_eq_left hle)
    have h1 : ¬e.count < tg := hc' ▸ Nat.lt_irrefl tg
    rw [envStep_idle (Or.inl h1), Nat.min_eq_left (Nat.le_add_right_of_le hle),
      specEmit_none_of_quota tg cs _ _ (Nat.le_refl _) hle]
    exact ⟨⟨hc', fun _ h => (h1 h).elim⟩, rfl⟩

/-- the view of the raw rows that `evaluate_policy` gets: rewards and dones are the raw ones; when
`mon`, `info["episode"]` is present exactly at episode ends and holds `f` of the true return, and the
true length, of the episode that ended -/
def Sees (mon : Bool) (f : α → α) (n : ℕ) :
    List (List (Raw α)) → List (List (Raw α)) → List (List (StepOut α)) → Prop
  | _, [], [] => True
  | pre, row :: rest, srow :: seen =>
    (∀ i, i < n →
      (mon = false → (srow.getD i ⟨0, false, none⟩).rew = (row.getD i ⟨0, false, []⟩).rew) ∧
      (srow.getD i ⟨0, false, none⟩).done = (row.getD i ⟨0, false, []⟩).done ∧
      (mon = true → (srow.getD i ⟨0, false, none⟩).ep =
        if (row.getD i ⟨0, false, []⟩).done then
          some (f (pySum (openSeg (colCalls i pre) ++ [(row.getD i ⟨0, false, []⟩).rew])),
                (openSeg (colCalls i pre)).length + 1)
        else none)) ∧
    Sees mon f n (pre ++ [row]) rest seen
  | _, _, _ => False

theorem sees_length (mon : Bool) (f : α → α) (n : ℕ) (pre rest : List (List (Raw α))) (seen : List (List (StepOut α)))
    (hs : Sees mon f n pre rest seen) : seen.length = rest.length := by
  induction rest generalizing pre seen with
  | nil => cases seen with
    | nil => rfl
    | cons a b => exact hs.elim
  | cons row rest ih => cases seen with
    | nil => exact hs.elim
    | cons srow seen => exact congrArg Nat.succ (ih _ _ hs.2)

variable {mon : Bool} {f : α → α} {n : ℕ} {tg : List ℕ} {s : EvalSt α} {pre rest : List (List (Raw α))}
  {seen : List (List (StepOut α))}

structure LInv (mon : Bool) (f : α → α) (n : ℕ) (tg : List ℕ) (s : EvalSt α) (pre : List (List (Raw α))) : Prop where
  envs : ∀ i, i < n → EInv mon (tg.getD i 0) (s.envs.getD i ⟨0, 0, 0⟩) (colCalls i pre)
  out : s.out = (evalSpec n tg pre).map (fun p => ((if mon then f else id) p.1, p.2))
  steps : s.steps = pre.length

theorem linv_init (mon : Bool) (f : α → α) (n : ℕ) (tg : List ℕ) : LInv mon f n tg (EvalSt.init n : EvalSt α) [] := by
  refine ⟨fun i hi => ?_, rfl, rfl⟩
  rw [EvalSt.init, replicate_getD hi]
  exact ⟨(Nat.min_eq_right (Nat.zero_le _)).symm, fun _ _ => ⟨rfl, rfl⟩⟩

theorem linv_rowStep {row : List (Raw α)} {srow : List (StepOut α)} (h : LInv mon f n tg s pre)
    (hs : Sees mon f n pre [row] [srow]) : LInv mon f n tg (rowStep mon n tg s srow) (pre ++ [row]) := by
  have key := fun i (hi : i < n) => envStep_spec (h.envs i hi) (hs.1 i hi).1 (hs.1 i hi).2.1 (hs.1 i hi).2.2
  refine ⟨fun i hi => ?_, ?_, (congrArg (· + 1) h.steps).trans (List.length_append (as := pre) (bs := [row])).symm⟩
  · rw [rowStep_envs_getD hi, colCalls_append]
    exact (key i hi).1
  · rw [evalSpec_snoc, List.map_append, ← h.out, List.map_filterMap, rowStep, List.filterMap_map]
    refine congrArg _ (List.filterMap_congr fun i hi => ?_)
    rw [colCalls_append, ← colCalls_length i pre]
    exact (key i (List.mem_range.mp hi)).2

theorem active_iff (h : LInv mon f n tg s pre) :
    active n tg s.envs = true ↔ ∃ i, i < n ∧ dones (colCalls i pre) < tg.getD i 0 := by
  simp only [active, List.any_eq_true, List.mem_range, decide_eq_true_eq]
  refine exists_congr fun i => and_congr_right fun hi => ?_
  rw [(h.envs i hi).1, min_lt_iff]
  exact or_iff_right (Nat.lt_irrefl _)

/-- how far the loop runs: `k` more rows, every one of them needed, and it stops early only when every quota is
reached -/
theorem loop_steps (h : LInv mon f n tg s pre) (hs : Sees mon f n pre rest seen) :
    ∃ k, k ≤ rest.length ∧ LInv mon f n tg (evalLoop mon n tg s seen) (pre ++ rest.take k) ∧
      (k < rest.length → ∀ i, i < n → tg.getD i 0 ≤ dones (colCalls i (pre ++ rest.take k))) ∧
      (∀ j, j < k → ∃ i, i < n ∧ dones (colCalls i (pre ++ rest.take j)) < tg.getD i 0) := by
  induction rest generalizing s pre seen with
  | nil =>
    cases seen with
    | nil => exact ⟨0, Nat.le_refl _, by rwa [List.take_nil, List.append_nil], nofun, nofun⟩
    | cons a b => exact hs.elim
  | cons row rest ih =>
    cases seen with
    | nil => exact hs.elim
    | cons srow seen =>
      rw [evalLoop]
      by_cases hact : active n tg s.envs = true
      · rw [if_pos hact]
        obtain ⟨k, hk, hinv, hstop, hneed⟩ := ih (linv_rowStep h ⟨hs.1, trivial⟩) hs.2
        rw [List.append_assoc] at hinv hstop
        refine ⟨k + 1, Nat.succ_le_succ hk, hinv, fun hlt => hstop (Nat.lt_of_succ_lt_succ hlt), fun j hj => ?_⟩
        cases j with
        | zero => rw [List.take_zero, List.append_nil]; exact (active_iff h).mp hact
        | succ j => rw [List.take_succ_cons, List.append_cons]; exact hneed j (Nat.lt_of_succ_lt_succ hj)
      · rw [if_neg hact]
        refine ⟨0, Nat.zero_le _, ?_, fun _ i hi => ?_, nofun⟩ <;> rw [List.take_zero, List.append_nil]
        · exact h
        · exact Nat.le_of_not_lt fun hlt => hact ((active_iff h).mpr ⟨i, hi, hlt⟩)

/-- the loop returns the specified contributions of all rows: those it does not look at any more contribute
nothing, every quota being reached -/
theorem loop_spec (h : LInv mon f n tg s pre) (hs : Sees mon f n pre rest seen) :
    (evalLoop mon n tg s seen).out = (evalSpec n tg (pre ++ rest)).map (fun p => ((if mon then f else id) p.1, p.2)) := by
  obtain ⟨k, hk, hinv, hstop, _⟩ := loop_steps h hs
  rw [hinv.out]
  rcases Nat.lt_or_eq_of_le hk with hlt | rfl
  · rw [← evalSpec_append_of_quota n tg _ (rest.drop k) (hstop hlt), List.append_assoc, List.take_append_drop]
  · rw [List.take_length]

end evalspec

section views
variable [Add α] [Zero α]

theorem sees_plain (f : α → α) (n : ℕ) (pre rows : List (List (Raw α))) :
    Sees false f n pre rows (plainRows n rows) := by
  induction rows generalizing pre with
  | nil => trivial
  | cons row rest ih =>
    refine ⟨fun i hi => ?_, ih (pre ++ [row])⟩
    rw [range_map_getD hi]
    exact ⟨fun _ => rfl, rfl, nofun⟩

omit [Add α] in
theorem vtrace_steps (i : ℕ) (pre : List (List (Raw α))) : vtrace i (pre.map VOp.step) = colCalls i pre :=
  List.map_map

theorem sees_vecmon {n : ℕ} {v : VecMon α} (pre rows : List (List (Raw α))) (hv : VInv n v (pre.map VOp.step)) :
    Sees true id n pre rows (throughVecMon n v rows) := by
  induction rows generalizing v pre with
  | nil => trivial
  | cons row rest ih =>
    refine ⟨fun i hi => ?_, ih (pre ++ [row]) (by rw [List.map_append]; exact vinv_step n [] (VOp.step row) hv)⟩
    rw [range_map_getD hi]
    refine ⟨fun _ => rfl, rfl, fun _ => ?_⟩
    obtain ⟨_, _, hepisode⟩ := vstep_spec n [] hv row hi rfl
    rw [hepisode, vtrace_steps]
    split <;> rfl

/-- a `Monitor` inside a `DummyVecEnv` between two vectorised steps: reset, and it has recorded the
running episode -/
def MInv (m : Mon α) (cs : List (Call α)) : Prop := m.needsReset = false ∧ m.rewards = openSeg cs

theorem minv_fresh (cfg : MonCfg) (rnd : α → α) (hk : cfg.resetKeys = []) : MInv (Mon.fresh cfg rnd) ([] : List (Call α)) := by
  simp [MInv, Mon.fresh, Mon.step, Mon.init, hk, bindResetKw, openSeg_nil]

theorem monAutoStep_spec (cfg : MonCfg) (rnd : α → α) (hk : cfg.resetKeys = []) {m : Mon α} {cs : List (Call α)}
    (o : Raw α) (h : MInv m cs) (hinfo : o.done = true → cfg.infoKeys.all (fun k => (kvGet o.info k).isSome) = true) :
    MInv (monAutoStep cfg rnd m o).1 (cs ++ [Call.step o.rew o.done]) ∧
    (monAutoStep cfg rnd m o).2 = (⟨o.rew, o.done,
      if o.done then some (rnd (pySum (openSeg cs ++ [o.rew])), (openSeg cs).length + 1) else none⟩ : StepOut α) := by
  obtain ⟨h1, h2⟩ := h
  obtain ⟨r, d, info⟩ := o
  simp only at hinfo ⊢
  cases d with
  | false =>
    -- `needs_reset` is off, so the step is accepted and the reward joins the running episode
    simp [monAutoStep, Mon.step, h1, MInv, h2, openSeg_snoc_open, Out.ep?]
  | true =>
    have hx := infoExtra_ok cfg.infoKeys info [] (hinfo rfl)
    cases hy : infoExtra cfg.infoKeys info [] with
    | none => simp [hy] at hx
    | some ex =>
      -- the episode is reported; the automatic `reset()` is not early (the step has set `needs_reset`), passes no
      -- keywords and none is required (`hk`), so it goes through and leaves `rewards = []`
      simp [monAutoStep, Mon.step, h1, MInv, h2, openSeg_snoc_done, Out.ep?, hy, hk, bindResetKw]

theorem sees_monitors (cfg : MonCfg) (rnd : α → α) (hk : cfg.resetKeys = []) (n : ℕ) (ms : List (Mon α))
    (pre rows : List (List (Raw α)))
    (hm : ∀ i, i < n → MInv (ms.getD i Mon.init) (colCalls i pre))
    (hinfo : ∀ row ∈ rows, ∀ i, i < n → (row.getD i ⟨0, false, []⟩).done = true →
      cfg.infoKeys.all (fun k => (kvGet (row.getD i ⟨0, false, []⟩).info k).isSome) = true) :
    Sees true rnd n pre rows (throughMonitors cfg rnd n ms rows) := by
  induction rows generalizing ms pre with
  | nil => trivial
  | cons row rest ih =>
    have key := fun i hi =>
      monAutoStep_spec cfg rnd hk (row.getD i ⟨0, false, []⟩) (hm i hi)
        (hinfo row List.mem_cons_self i hi)
    refine ⟨fun i hi => ?_, ih _ (pre ++ [row]) (fun i hi => ?_) fun r hr => hinfo r (List.mem_cons_of_mem _ hr)⟩
    · rw [List.map_map, range_map_getD hi, Function.comp, (key i hi).2]
      exact ⟨fun _ => rfl, rfl, fun _ => rfl⟩
    · rw [List.map_map, range_map_getD hi, colCalls_append]
      exact (key i hi).1

theorem evaluate_of_sees {mon : Bool} {f : α → α} (N : ℕ) {n : ℕ} {rows : List (List (Raw α))}
    {seen : List (List (StepOut α))} (hs : Sees mon f n [] rows seen) :
    (evaluate mon N n seen).out =
      (evalSpec n (targets N n) rows).map (fun p => ((if mon then f else id) p.1, p.2)) :=
  (loop_spec (linv_init mon f n (targets N n)) hs :)

end views

section rounding

theorem roundHalfEven_intCast (z : Int) : roundHalfEven (z : Rat) = z := by
  unfold roundHalfEven
  simp only [Rat.floor_intCast, sub_self]
  norm_num

theorem roundHalfEven_cases (x : Rat) :
    roundHalfEven x = x.floor ∧ x - x.floor ≤ 1 / 2 ∨ roundHalfEven x = x.floor + 1 ∧ 1 / 2 ≤ x - x.floor := by
  unfold roundHalfEven
  dsimp only
  by_cases h : x - x.floor < 1 / 2
  · exact Or.inl ⟨if_pos h, h.le⟩
  · rw [if_neg h]
    by_cases h' : 1 / 2 < x - x.floor
    · exact Or.inr ⟨if_pos h', h'.le⟩
    · rw [if_neg h']
      by_cases he : x.floor % 2 = 0
      · exact Or.inl ⟨if_pos he, not_lt.mp h'⟩
      · exact Or.inr ⟨if_neg he, not_lt.mp h⟩

theorem roundHalfEven_err (x : Rat) : |(roundHalfEven x : Rat) - x| ≤ 1 / 2 := by
  rcases roundHalfEven_cases x with ⟨e, h⟩ | ⟨e, h⟩ <;> rw [e]
  · -- rounded down: the distance is `x - ⌊x⌋`
    rwa [abs_sub_comm, abs_of_nonneg (sub_nonneg.mpr (Rat.floor_le x))]
  · -- rounded up: the distance is `⌊x⌋ + 1 - x`
    rw [abs_of_pos (sub_pos.mpr (Rat.lt_floor_add_one x)), Int.cast_add, Int.cast_one, add_comm,
      ← sub_sub_eq_add_sub]
    exact (sub_le_sub_left h 1).trans (sub_half 1).le

theorem roundScale_exact (c : Rat) (hc : c ≠ 0) (q : Rat) (z : Int) (h : q * c = z) :
    (roundHalfEven (q * c) : Rat) / c = q := by
  rw [h, roundHalfEven_intCast, ← h, mul_div_cancel_right₀ q hc]

/-- rounding at scale `c` (`c = 10^6` for `round(·, 6)`) moves a value by at most half a unit of that scale -/
theorem roundScale_err (c : Rat) (hc : 0 < c) (q : Rat) : |(roundHalfEven (q * c) : Rat) / c - q| ≤ 1 / 2 / c := by
  have e : (roundHalfEven (q * c) : Rat) / c - q = ((roundHalfEven (q * c) : Rat) - q * c) / c := by
    rw [sub_div, mul_div_cancel_right₀ q hc.ne']
  have h := abs_le.mp (roundHalfEven_err (q * c))
  rw [e, abs_le, ← neg_div]
  exact ⟨div_le_div_of_nonneg_right h.1 hc.le, div_le_div_of_nonneg_right h.2 hc.le⟩

end rounding

/-- K-C18-b on a concrete file: a first session wrote two episodes (t = 1, 3 after `t_start = 1000`), a second
session, started much later with `override_existing=False`, appended one episode 1/2 s after *its* start -/
def cexFile : MFile Nat := { tStart := 1000, rows := [(1, 0), (3, 1), (1 / 2, 2)] }

section share
variable [Add α] [Zero α]

/-- how many steps of a history contribute to the evaluation result under quota `tg` -/
def contributions (tg : ℕ) (calls : List (Call α)) : ℕ :=
  (List.range calls.length).countP fun t => (specEmit tg calls t).isSome

theorem contributions_snoc (tg : ℕ) (calls : List (Call α)) (c : Call α) :
    contributions tg (calls ++ [c]) =
      contributions tg calls + (if (specEmit tg (calls ++ [c]) calls.length).isSome then 1 else 0) := by
  unfold contributions
  rw [List.length_append, List.length_singleton, List.range_succ, List.countP_append, List.countP_singleton]
  congr 1
  exact List.countP_congr fun t ht => by rw [specEmit_append_left tg _ (List.mem_range.mp ht)]

theorem contributions_eq (tg : ℕ) (calls : List (Call α)) : contributions tg calls = min tg (dones calls) := by
  induction calls using List.reverseRecOn with
  | nil => exact (Nat.min_eq_right (Nat.zero_le tg)).symm
  | append_singleton calls c ih =>
    rw [contributions_snoc, ih]
    cases c with
    | reset => rw [specEmit, List.getElem?_concat_length, dones_append]; rfl
    | step r d =>
      rw [dones_snoc]
      cases d with
      | false => rw [specEmit_snoc_open]; rfl
      | true =>
        rw [specEmit_snoc_done, if_pos (rfl : true = true)]
        by_cases hlt : dones calls < tg
        · rw [if_pos hlt, Nat.min_eq_right hlt.le, Nat.min_eq_right (Nat.succ_le_of_lt hlt)]; rfl
        · rw [if_neg hlt, Nat.min_eq_left (Nat.le_of_not_lt hlt),
            Nat.min_eq_left (Nat.le_add_right_of_le (Nat.le_of_not_lt hlt))]; rfl

end share
end SB3Verif.Lemmas.Mon
