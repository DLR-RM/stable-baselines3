/-
C17 ∘ C01 — the wrapped vectorised environment still satisfies the VecEnv contract, end to end.

Composition of the base VecEnv model of C01 (`SB3Verif.VecEnv`: `Vec`, either implementation, any number of
sub-environments, any answers of the sub-environments) with the wrapper model of C17 (`SB3Verif.Wrappers`: any stack
of VecFrameStack / VecTransposeImage / VecExtractDictObs / VecMonitor / VecCheckNan, one state per environment).

C01's model is generic in the observation type `ω` and the reward type `ρ`: it is instantiated at `ω := Obs` (the
key/array observations of the wrapper model) and `ρ := Int`; the adapter `recOf` turns what the base `step()` returned
for environment `i` (observation, reward, done, info dictionary) into the record the wrapper stack consumes.

The theorems compose C01's `step_done`, `step_truncated_flag`, `step_reward`, `step_episode_ends`,
`step_episode_continues`, `reset_delivers` with C17's `passthrough`, `ordinary_obs`, `terminal_like_obs`,
`terminal_absent`, `done_obs_is_reset_obs`, `framestack_spec` (through their lemma forms).
-/
import SB3Verif.Props.C01
import SB3Verif.Lemmas.Wrappers

namespace SB3Verif.C17C01

open SB3Verif.Wrappers

/-- the entries of a base `info` dictionary the wrappers read -/
def infoOf (d : VecEnv.Info Obs) : Wrappers.Info :=
  { terminal := match VecEnv.dictGet d "terminal_observation" with
      | some (VecEnv.Val.obs t) => some t
      | _ => none,
    truncated := match VecEnv.dictGet d "TimeLimit.truncated" with
      | some (VecEnv.Val.bool b) => b
      | _ => false,
    episode := none,
    payload := match VecEnv.dictGet d "payload" with
      | some (VecEnv.Val.int p) => p
      | _ => 0 }

/-- environment `i`'s slice of what the base `step()` returned -/
def recOf (o : VecEnv.Out Obs Int) (i : Nat) : Rec :=
  { obs := ((o.obs[i]?).join).getD [],
    rew := ((o.rews[i]?).join).getD 0,
    done := (o.dones[i]?).getD false,
    info := infoOf ((o.infos[i]?).getD []) }

/-- `step()` of the wrapped vectorised environment: the base VecEnv steps, every environment's slice goes through
that environment's stack of wrapper states (`vecStep`). Result: new base state, new wrapper states, one record per
environment. -/
def wrappedStep (v : VecEnv.Vec Obs Int) (sts : List (List WS)) (acts : List Int)
    (xs : List (VecEnv.StepResp Obs Int)) : (VecEnv.Vec Obs Int × List (List WS)) × List Rec :=
  let res := vecStep sts ((List.range v.n).map (recOf (v.step acts xs).2))
  (((v.step acts xs).1, res.map (·.1)), res.map (·.2))

/-- `reset()` of the wrapped vectorised environment -/
def wrappedReset (v : VecEnv.Vec Obs Int) (sts : List (List WS)) (zs : List (VecEnv.ResetRes Obs)) :
    (VecEnv.Vec Obs Int × List (List WS)) × List Obs :=
  let res := vecReset sts ((List.range v.n).map fun i => (((v.reset zs).2.obs[i]?).join).getD [])
  (((v.reset zs).1, res.map (·.1)), res.map (·.2))

/-- C01's contract, read through `recOf` -/
theorem recOf_step (v : VecEnv.Vec Obs Int) (hwf : v.WF) (acts : List Int) (xs : List (VecEnv.StepResp Obs Int))
    (hv : (VecEnv.Op.step acts xs).valid v.n = true) (i : Nat) (hi : i < v.n) (a : Int)
    (x : VecEnv.StepResp Obs Int) (ha : acts[i]? = some a) (hx : xs[i]? = some x) :
    (recOf (v.step acts xs).2 i).rew = x.raw.rew ∧
    (recOf (v.step acts xs).2 i).done = (x.raw.terminated || x.raw.truncated) ∧
    (recOf (v.step acts xs).2 i).info.truncated = (x.raw.truncated && !x.raw.terminated) ∧
    (recOf (v.step acts xs).2 i).info.episode = none ∧
    ((x.raw.terminated || x.raw.truncated) = false →
      (recOf (v.step acts xs).2 i).obs = x.raw.obs ∧
      (VecEnv.dictGet x.raw.info "terminal_observation" = none → (recOf (v.step acts xs).2 i).info.terminal = none)) ∧
    ((x.raw.terminated || x.raw.truncated) = true → ∀ z, x.rst = some z →
      (recOf (v.step acts xs).2 i).obs = z.obs ∧ (recOf (v.step acts xs).2 i).info.terminal = some x.raw.obs) := by
  -- an entry of environment `i`'s info dictionary, read through the default that `recOf` uses
  have dictGet_getD : ∀ k, VecEnv.dictGet (((v.step acts xs).2.infos[i]?).getD []) k =
      ((v.step acts xs).2.infos[i]?).bind (VecEnv.dictGet · k) := by
    intro k; cases (v.step acts xs).2.infos[i]? <;> rfl
  have hd := C01.step_done v hwf acts xs hv i hi a x ha hx
  have hr := C01.step_reward v hwf acts xs hv i hi a x ha hx
  have ht := C01.step_truncated_flag v hwf acts xs hv i hi a x ha hx
  refine ⟨congrArg (fun t => (Option.join t).getD 0) hr, congrArg (fun t => Option.getD t false) hd,
    by simp only [recOf, infoOf, dictGet_getD, ht], rfl, fun hnd => ?_, fun hdone z hz => ?_⟩
  · obtain ⟨c1, c2, _⟩ := C01.step_episode_continues v hwf acts xs hv i hi a x ha hx hnd
    exact ⟨congrArg (fun t => (Option.join t).getD []) c1, fun hclean => by
      simp only [recOf, infoOf, dictGet_getD, c2, hclean]⟩
  · obtain ⟨c1, c2, _⟩ := C01.step_episode_ends v hwf acts xs hv i hi a x ha hx hdone z hz
    exact ⟨congrArg (fun t => (Option.join t).getD []) c1, by simp only [recOf, infoOf, dictGet_getD, c2]⟩

theorem wrappedStep_env (v : VecEnv.Vec Obs Int) (sts : List (List WS)) (hs : sts.length = v.n) (acts : List Int)
    (xs : List (VecEnv.StepResp Obs Int)) (i : Nat) (hi : i < v.n) :
    (wrappedStep v sts acts xs).2[i]? = some (stackStep (sts[i]'(hs ▸ hi)) (recOf (v.step acts xs).2 i)).2 ∧
    (wrappedStep v sts acts xs).1.2[i]? = some (stackStep (sts[i]'(hs ▸ hi)) (recOf (v.step acts xs).2 i)).1 := by
  simp [wrappedStep, vecStep, hs, hi]

/-- **`wrapped_step_contract`**: for every base vectorised environment (DummyVecEnv or SubprocVecEnv model, any
well-formed state `v.WF`, any number of sub-environments), every stack of wrappers in any order and any states (one stack
state per environment), every step and every answer of the sub-environments: for every environment `i` the record
`R` returned by the WRAPPED environment satisfies the VecEnv contract —
* `R.done = terminated ∨ truncated` of sub-environment `i`, `R.info["TimeLimit.truncated"] = truncated ∧ ¬terminated`,
  the reward is the sub-environment's;
* episode continues, and the sub-environment's own `info` holds no `terminal_observation`: none comes out, and the
  observation is the stack's transformation of the sub-environment's observation;
* episode ends, the first observation of the next episode has the keys, shapes and sizes of the last one, whose keys
  are distinct: `terminal_observation` is present and equals the transformation that the stack, in its pre-reset
  state, gives to an ordinary observation, applied to the sub-environment's LAST observation; the returned
  observation is what `reset()` of the stack returns for the FIRST observation of the next episode. -/
theorem wrapped_step_contract (v : VecEnv.Vec Obs Int) (hwf : v.WF) (sts : List (List WS)) (hs : sts.length = v.n)
    (acts : List Int) (xs : List (VecEnv.StepResp Obs Int)) (hv : (VecEnv.Op.step acts xs).valid v.n = true)
    (i : Nat) (hi : i < v.n) (a : Int) (x : VecEnv.StepResp Obs Int) (ha : acts[i]? = some a)
    (hx : xs[i]? = some x) :
    ∃ R, (wrappedStep v sts acts xs).2[i]? = some R ∧
      R.done = (x.raw.terminated || x.raw.truncated) ∧
      R.info.truncated = (x.raw.truncated && !x.raw.terminated) ∧
      R.rew = x.raw.rew ∧
      ((x.raw.terminated || x.raw.truncated) = false →
        VecEnv.dictGet x.raw.info "terminal_observation" = none →
          R.info.terminal = none ∧ R.obs = stackObsFn (sts[i]'(hs ▸ hi)) x.raw.obs) ∧
      ((x.raw.terminated || x.raw.truncated) = true → ∀ z, x.rst = some z →
        obsSig z.obs = obsSig x.raw.obs → KeysNodup x.raw.obs →
          R.info.terminal = some (stackObsFn (sts[i]'(hs ▸ hi)) x.raw.obs) ∧
          R.obs = (stackReset (sts[i]'(hs ▸ hi)) z.obs).2) := by
  obtain ⟨b1, b2, b3, _, b5, b6⟩ := recOf_step v hwf acts xs hv i hi a x ha hx
  obtain ⟨p1, p2, p3, _⟩ := Lemmas.Wrappers.stackStep_passthrough (sts[i]'(hs ▸ hi)) (recOf (v.step acts xs).2 i)
  refine ⟨_, (wrappedStep_env v sts hs acts xs i hi).1, p2.trans b2, p3.trans b3, p1.trans b1, ?_, ?_⟩
  · intro hnd hclean
    obtain ⟨c1, c2⟩ := b5 hnd
    refine ⟨Lemmas.Wrappers.stackStep_terminal_none _ _ (c2 hclean), ?_⟩
    rw [Lemmas.Wrappers.stackStep_obs_ordinary _ _ (b2.trans hnd), c1]
  · intro hdone z hz hsig hnd
    obtain ⟨c1, c2⟩ := b6 hdone z hz
    refine ⟨Lemmas.Wrappers.stackStep_terminal_alike _ _ x.raw.obs (b2.trans hdone) c2 (by rw [c1]; exact hsig) hnd, ?_⟩
    rw [← c1, Lemmas.Wrappers.stackReset_eq_step _ _ (b2.trans hdone)]

/-- **`wrapped_reset_contract`**: `reset()` of the wrapped environment returns, for environment `i`, what the stack's
`reset` makes of the observation sub-environment `i` answered to `reset(seed, options)`. -/
theorem wrapped_reset_contract (v : VecEnv.Vec Obs Int) (hwf : v.WF) (sts : List (List WS)) (hs : sts.length = v.n)
    (zs : List (VecEnv.ResetRes Obs)) (hz : zs.length = v.n) (i : Nat) (hi : i < v.n) (z : VecEnv.ResetRes Obs)
    (hzi : zs[i]? = some z) :
    (wrappedReset v sts zs).2[i]? = some (stackReset (sts[i]'(hs ▸ hi)) z.obs).2 := by
  obtain ⟨c1, _⟩ := C01.reset_delivers v hwf zs hz i hi z hzi
  simp [wrappedReset, vecReset, hs, hi, c1]

/-- **`wrapped_framestack_autoreset_window`** (VecFrameStack directly on a Box base environment): whatever happened
before (any history `h` of environment `i`'s sub-stack: any number of earlier episodes), when sub-environment `i` ends
its episode the window returned by the wrapped environment is the stack of the one-frame new episode — `n - 1` zero
frames and the first observation of the next episode: no frame of the finished episode survives the automatic
reset — and `terminal_observation` is the stack of the finished episode completed by its last observation. -/
theorem wrapped_framestack_autoreset_window (v : VecEnv.Vec Obs Int) (hwf : v.WF) (sts : List (List WS))
    (hs : sts.length = v.n) (acts : List Int) (xs : List (VecEnv.StepResp Obs Int))
    (hv : (VecEnv.Op.step acts xs).valid v.n = true) (i : Nat) (hi : i < v.n) (a : Int)
    (x : VecEnv.StepResp Obs Int) (ha : acts[i]? = some a) (hx : xs[i]? = some x)
    (hdone : (x.raw.terminated || x.raw.truncated) = true) (z : VecEnv.ResetRes Obs) (hz : x.rst = some z)
    (first : Bool) (n : Nat) (shape : List Nat) (hn : 0 < n) (hne : shape ≠ []) (hpos : 0 < prod shape)
    (h : List FEv) (hh : ∀ e ∈ h, EvOK shape e)
    (hst : sts[i]'(hs ▸ hi) = [WS.frameStack [("", first)] [("", fsRun first (Arr.zeros (stackedShape n first shape)) h)]])
    (last next : Arr) (hlast : x.raw.obs = [("", last)]) (hnext : z.obs = [("", next)])
    (hl : FrameOK shape last) (hnx : FrameOK shape next) :
    ∃ R, (wrappedStep v sts acts xs).2[i]? = some R ∧
      R.obs = [("", stackOf first n shape [next])] ∧
      R.info.terminal = some [("", stackOf first n shape (curEpisode [] h ++ [last]))] := by
  -- the contract gives the stack's transformation of `last` and the stack's `reset` of `next`; here the stack is
  -- one frame stack whose window is that of the episode so far
  obtain ⟨R, hR, _, _, _, _, hend⟩ := wrapped_step_contract v hwf sts hs acts xs hv i hi a x ha hx
  obtain ⟨ht, ho⟩ := hend hdone z hz
    (by rw [hnext, hlast]; simp only [obsSig, List.map_cons, List.map_nil, hl.1, hl.2, hnx.1, hnx.2])
    (by rw [hlast]; simp [KeysNodup])
  obtain ⟨hrun, hep⟩ := Lemmas.Wrappers.fsRun_zeros first n shape hn hne hpos h hh
  rw [hrun] at hst
  have hu : (updateArr first _ last false none).1 = stackOf first n shape (curEpisode [] h ++ [last]) :=
    congrArg Prod.fst
      (Lemmas.Wrappers.updateArr_spec first n shape hn hne hpos _ last false none hep hl fun _ h => nomatch h)
  refine ⟨R, hR, ?_, ?_⟩
  · rw [ho, hst, hnext, ← Lemmas.Wrappers.resetArr_spec first n shape hn hne hpos _ next hep hnx]
    rfl
  · rw [ht, hst, hlast, ← hu]
    rfl

/-! ### Non-vacuity: 2 environments under [VecFrameStack(3), VecTransposeImage] over a DummyVecEnv

Environment 0 ends a length-1 episode with `terminated ∧ truncated`; environment 1 continues. -/

def exImg (k : Int) : Obs := [("", ⟨[4, 4, 1], (List.range 16).map fun (p : Nat) => k + (p : Int)⟩)]

def exSpace : Space := ⟨false, [("", ⟨[4, 4, 1], List.replicate 16 0, List.replicate 16 255, "uint8"⟩)]⟩

def exStack : List WS :=
  match buildStack [.frameStack 3 (.all .auto), .transpose false] exSpace with
  | .ok (ws, _) => ws
  | .error _ => []

def exResets : List (VecEnv.ResetRes Obs) := [⟨exImg 10, []⟩, ⟨exImg 100, []⟩]

def exAnswers : List (VecEnv.StepResp Obs Int) :=
  [⟨⟨exImg 30, 5, true, true, [("payload", .int 1)]⟩, some ⟨exImg 50, []⟩⟩, ⟨⟨exImg 120, 7, false, false, []⟩, none⟩]

/-- the state the step is taken from: fresh DummyVecEnv of 2 sub-environments and fresh wrapper stacks, after `reset()` -/
def exState := wrappedReset (VecEnv.Vec.init .dummy 2) [exStack, exStack] exResets

/-- the hypotheses of `wrapped_step_contract` hold at this state … -/
example : exState.1.1.WF ∧ exState.1.2.length = exState.1.1.n ∧
    (VecEnv.Op.step [0, 0] exAnswers).valid exState.1.1.n = true ∧
    obsSig (exImg 50) = obsSig (exImg 30) ∧ KeysNodup (exImg 30) := by
  refine ⟨?_, by decide, by decide, by decide, by unfold KeysNodup; decide⟩
  exact (C01.wf_invariant .dummy 2 [VecEnv.Op.reset exResets] (by decide)).1

/-- … and this is what the wrapped environment returns: done / TimeLimit.truncated / reward / other info, the stacked
and transposed terminal observation `[0…, frame 10…, frame 30…]` and the new windows -/
example :
    let out := (wrappedStep exState.1.1 exState.1.2 [0, 0] exAnswers).2
    out.map (·.done) = [true, false] ∧ out.map (·.info.truncated) = [false, false] ∧
    out.map (·.rew) = [5, 7] ∧ out.map (·.info.payload) = [1, 0] ∧
    out.map (·.info.terminal) =
      [some [("", ⟨[3, 4, 4], List.replicate 16 0 ++ (List.range 16).map (fun (p : Nat) => 10 + (p : Int)) ++
                              (List.range 16).map (fun (p : Nat) => 30 + (p : Int))⟩)], none] ∧
    out.map (·.obs) =
      [[("", ⟨[3, 4, 4], List.replicate 32 0 ++ (List.range 16).map (fun (p : Nat) => 50 + (p : Int))⟩)],
       [("", ⟨[3, 4, 4], List.replicate 16 0 ++ (List.range 16).map (fun (p : Nat) => 100 + (p : Int)) ++
                          (List.range 16).map (fun (p : Nat) => 120 + (p : Int))⟩)]] := by
  intro out
  decide +kernel

end SB3Verif.C17C01
