/-
C17 — VecEnv wrappers keep the contract and transform terminal observations alike.

Property theorems only (helper lemmas are in `SB3Verif/Lemmas/Wrappers.lean`).
All statements are about the executable model `SB3Verif/Model/Wrappers.lean`, whose definitions the
driver `SB3Verif/Driver/C17.lean` runs against the real wrapper stack on every check.
-/
import SB3Verif.Lemmas.Wrappers
import SB3Verif.Props.C17C01

namespace SB3Verif.C17

open SB3Verif.Wrappers

/-! ### Frame stacking: the window mechanism equals its specification, for every history -/

/-- **Row-level window invariant** (`window_eq_padded_suffix`): for every stack depth `n ≥ 1`, every frame
width `c` and every history of `reset`/`update` calls (any episode script: length-1 episodes, episodes
shorter than the stack, resets in mid-episode …), the rolling window of `StackedObservations`
(roll by one frame, zero on done, write the new frame last) started from all zeros holds exactly the
last `n` frames of the *current* episode, left-padded with zero frames. -/
theorem window_eq_padded_suffix (n c : Nat) (hn : 0 < n) (h : List REv)
    (hh : ∀ e ∈ h, ∀ f ∈ e.frames, f.length = c) :
    rowRun (List.replicate (n * c) 0) h = paddedRow n c (rowEpisode [] h) := by
  have h0 : List.replicate (n * c) (0 : Int) = paddedRow n c [] := by
    simp [paddedRow, Lemmas.Wrappers.paddedFrames_nil]
  rw [h0]
  exact Lemmas.Wrappers.rowRun_spec n c hn h [] (by simp) hh

/-- **`framestack_spec`** (array level, both stacking axes, every rank): for every stack depth `n ≥ 1`,
every non-empty base shape with positive dimensions, stacking on the first or on the last axis, and every
history of one environment whose observations are frames of the base space, the window of
`StackedObservations` — a copy of which is what `reset()`/`step()` return — equals
`np.concatenate` (along the stacking axis) of the last `n` observations of the *current* episode,
left-padded with zero frames. -/
theorem framestack_spec (first : Bool) (n : Nat) (shape : List Nat) (hn : 0 < n) (hne : shape ≠ [])
    (hpos : 0 < prod shape) (h : List FEv) (hh : ∀ e ∈ h, EvOK shape e) :
    fsRun first (Arr.zeros (stackedShape n first shape)) h = stackOf first n shape (curEpisode [] h) := by
  exact (Lemmas.Wrappers.fsRun_zeros first n shape hn hne hpos h hh).1

/-- **`terminal_stack_spec`**: when, after any history `h`, a step ends the episode with raw terminal
observation `t` and first observation `o` of the next episode, the stacked terminal observation is the stack
of the episode that just ended completed by `t` (its last `n` frames, zero-padded when the episode was
shorter than the stack), and the returned observation is the stack of the new one-frame episode. -/
theorem terminal_stack_spec (first : Bool) (n : Nat) (shape : List Nat) (hn : 0 < n) (hne : shape ≠ [])
    (hpos : 0 < prod shape) (h : List FEv) (hh : ∀ e ∈ h, EvOK shape e) (o t : Arr)
    (ho : FrameOK shape o) (ht : FrameOK shape t) :
    updateArr first (fsRun first (Arr.zeros (stackedShape n first shape)) h) o true (some t) =
      (stackOf first n shape [o], some (stackOf first n shape (curEpisode [] h ++ [t]))) :=
  (Lemmas.Wrappers.updateArr_after_history first n shape hn hne hpos h hh o ho true (some t)
    fun _ h' => Option.some.inj h' ▸ ht).trans (if_pos rfl)

/-- **`framestack_done_window_any_terminal`**: whether or not the VecEnv below supplied a `terminal_observation`
(`term = none`: gym3/procgen-style vectorised environments — the library only warns), a step that ends the episode
leaves — and returns — the window of the NEW episode only: `n - 1` zero frames and its first observation; no frame of
the finished episode survives. A supplied terminal observation is stacked onto the finished episode's window; an
absent one stays absent (nothing is invented, `infos[i]` simply has no `terminal_observation`). -/
theorem framestack_done_window_any_terminal (first : Bool) (n : Nat) (shape : List Nat) (hn : 0 < n)
    (hne : shape ≠ []) (hpos : 0 < prod shape) (h : List FEv) (hh : ∀ e ∈ h, EvOK shape e) (o : Arr)
    (ho : FrameOK shape o) (term : Option Arr) (ht : ∀ t, term = some t → FrameOK shape t) :
    updateArr first (fsRun first (Arr.zeros (stackedShape n first shape)) h) o true term =
      (stackOf first n shape [o], term.map fun t => stackOf first n shape (curEpisode [] h ++ [t])) :=
  (Lemmas.Wrappers.updateArr_after_history first n shape hn hne hpos h hh o ho true term ht).trans (if_pos rfl)

/-- the same at row level, for any window contents of the running episode -/
theorem window_cleared_on_done_any_terminal (n c : Nat) (hn : 0 < n) (ep : List (List Int)) (obs : List Int)
    (term : Option (List Int)) (hep : ∀ f ∈ ep, f.length = c) (ho : obs.length = c) :
    (updateRow (paddedRow n c ep) obs true term).1 = paddedRow n c [obs] := by
  rw [Lemmas.Wrappers.updateRow_spec n c hn ep obs true term hep ho]
  rfl

/-- An ordinary step (not done) appends the observation to the current episode and hands the `terminal_observation`
entry of `info` (present or not) on as it is. -/
theorem framestack_step_spec (first : Bool) (n : Nat) (shape : List Nat) (hn : 0 < n) (hne : shape ≠ [])
    (hpos : 0 < prod shape) (h : List FEv) (hh : ∀ e ∈ h, EvOK shape e) (o : Arr) (ho : FrameOK shape o)
    (term : Option Arr) (ht : ∀ t, term = some t → FrameOK shape t) :
    updateArr first (fsRun first (Arr.zeros (stackedShape n first shape)) h) o false term =
      (stackOf first n shape (curEpisode [] h ++ [o]), term) :=
  (Lemmas.Wrappers.updateArr_after_history first n shape hn hne hpos h hh o ho false term ht).trans
    (if_neg Bool.false_ne_true)

/-- Episodes shorter than the stack (in particular right after a reset or an episode end): the window is
`n - len` zero frames followed by the whole episode. -/
theorem stack_short_episode {α : Type} (n : Nat) (z : α) (ep : List α) (h : ep.length ≤ n) :
    paddedFrames n z ep = List.replicate (n - ep.length) z ++ ep := by
  have : ep.length - n = 0 := by omega
  simp [paddedFrames, this]

/-- Episodes at least as long as the stack: exactly the last `n` frames, no padding. -/
theorem stack_long_episode {α : Type} (n : Nat) (z : α) (ep : List α) (h : n ≤ ep.length) :
    paddedFrames n z ep = ep.drop (ep.length - n) := by
  have : n - ep.length = 0 := by omega
  simp [paddedFrames, this]

/-- After an auto-reset (or `reset()`): zeros and the first observation. -/
theorem stack_after_reset {α : Type} (n : Nat) (hn : 0 < n) (z o : α) :
    paddedFrames n z [o] = List.replicate (n - 1) z ++ [o] :=
  Lemmas.Wrappers.paddedFrames_singleton n hn z o

/-- The stacked terminal observation ends with the raw terminal observation, preceded by the window of the
ended episode minus its oldest frame. -/
theorem terminal_stack_ends_with_raw {α : Type} (n : Nat) (hn : 0 < n) (z t : α) (ep : List α) :
    paddedFrames n z (ep ++ [t]) = (paddedFrames n z ep).drop 1 ++ [t] :=
  Lemmas.Wrappers.paddedFrames_push n hn z t ep

/-- The specification's `concatFrames` is `np.concatenate` along the first axis: in C order, the frames' elements
one frame after the other. -/
theorem stack_is_concatenate_first (shape : List Nat) (hpos : 0 < prod shape) (fs : List Arr)
    (hfs : ∀ f ∈ fs, FrameOK shape f) :
    (concatFrames true shape fs).data = fs.flatMap (·.data) := by
  open Lemmas.Wrappers in
  simp only [concatFrames_eq, mOf, kOf_first, Nat.div_self hpos, List.range_one, List.flatMap_cons, List.flatMap_nil,
    List.append_nil]
  rw [List.flatMap_def, List.flatMap_def]
  congr 1
  apply List.map_congr_left
  intro f hf
  simp only [row, Nat.zero_mul, List.drop_zero]
  exact List.take_of_length_le (by rw [(hfs f hf).2]; exact Nat.le_refl _)

/-- … and along the last axis: with `C = shape[-1]`, element `c` of row `r` of frame `i` is element
`i*C + c` of row `r` of the result (rows of the result have length `len(fs)*C`). -/
theorem stack_is_concatenate_last (shape : List Nat) (hpos : 0 < prod shape) (fs : List Arr)
    (hfs : ∀ f ∈ fs, FrameOK shape f) (r i c : Nat) (hr : r < prod shape / lastDim shape) (hi : i < fs.length)
    (hc : c < lastDim shape) :
    (concatFrames false shape fs).data.getD ((r * fs.length + i) * lastDim shape + c) 0 =
      fs[i].data.getD (r * lastDim shape + c) 0 := by
  open Lemmas.Wrappers in
  have hrow : ∀ r', r' < prod shape / lastDim shape → ∀ f ∈ fs, (row (lastDim shape) r' f.data).length = lastDim shape :=
    fun r' hr' f hf => frame_row_length false shape hpos f (hfs f hf) r' hr'
  simp only [concatFrames_eq, mOf, kOf_last]
  have hidx : (r * fs.length + i) * lastDim shape + c = r * (fs.length * lastDim shape) + (i * lastDim shape + c) := by
    rw [Nat.add_mul, Nat.mul_assoc, Nat.add_assoc]
  have hic : i * lastDim shape + c < fs.length * lastDim shape := by
    have : (i + 1) * lastDim shape ≤ fs.length * lastDim shape := Nat.mul_le_mul_right _ hi
    rw [Nat.succ_mul] at this
    omega
  -- row `r` of the result is the rows `r` of the frames one after the other; entry `c` of the `i`-th of them is meant
  rw [hidx, getD_flatMap (fs.length * lastDim shape) _ (List.range _)
      (fun r' hr' => length_flatMap_uniform _ _ fs (hrow r' (List.mem_range.mp hr')))
      r _ (by rw [List.length_range]; exact hr) hic,
    List.getElem_range, getD_flatMap (lastDim shape) _ fs (hrow r hr) i c hi hc]
  exact getD_row _ _ _ _ hc

/-! ### Any stack of wrappers, in any order -/

/-- **`passthrough`**: for every stack of wrappers (any wrappers, any order, any internal states) and every
step record of an environment, reward, done flag, `TimeLimit.truncated` and the rest of `info` (payload)
come out exactly as they went in. -/
theorem passthrough (ws : List WS) (r : Rec) :
    (stackStep ws r).2.rew = r.rew ∧ (stackStep ws r).2.done = r.done ∧
      (stackStep ws r).2.info.truncated = r.info.truncated ∧ (stackStep ws r).2.info.payload = r.info.payload :=
  Lemmas.Wrappers.stackStep_passthrough ws r

/-- The vectorised stack treats every environment by itself: environment `i`'s result is the single-environment
stack run on environment `i`'s record and state only. -/
theorem env_independent (sts : List (List WS)) (rs : List Rec) (i : Nat) (h1 : i < sts.length) (h2 : i < rs.length) :
    (vecStep sts rs)[i]'(by simp [vecStep]; omega) = stackStep sts[i] rs[i] := by
  simp [vecStep]

/-- **`ordinary_obs`**: on a step that does not end the episode, a stack returns `stackObsFn ws` of the
observation — this *defines* "the transformation given to ordinary observations" by the stack in its
present state (for `VecFrameStack`: push onto the current window). -/
theorem ordinary_obs (ws : List WS) (r : Rec) (hd : r.done = false) :
    (stackStep ws r).2.obs = stackObsFn ws r.obs :=
  Lemmas.Wrappers.stackStep_obs_ordinary ws r hd

/-- **`terminal_like_obs`**: for every stack of wrappers in any order and any states, when a step ends the
episode with terminal observation `t` (of the same keys/shapes as the observation, keys distinct), the
`terminal_observation` that comes out is exactly `stackObsFn ws t`: the transformation the same stack, in the
same (pre-reset) state, gives to an ordinary observation. For `VecFrameStack` this is the window of the
episode that just ended with `t` pushed onto it; for `VecTransposeImage`/`VecExtractDictObs` the same
transposition/projection; `VecMonitor`/`VecCheckNan` leave it alone. -/
theorem terminal_like_obs (ws : List WS) (r : Rec) (t : Obs) (hd : r.done = true)
    (ht : r.info.terminal = some t) (hs : obsSig r.obs = obsSig t) (hk : KeysNodup t) :
    (stackStep ws r).2.info.terminal = some (stackObsFn ws t) :=
  Lemmas.Wrappers.stackStep_terminal_alike ws r t hd ht hs hk

/-- No wrapper invents a terminal observation. -/
theorem terminal_absent (ws : List WS) (r : Rec) (ht : r.info.terminal = none) :
    (stackStep ws r).2.info.terminal = none :=
  Lemmas.Wrappers.stackStep_terminal_none ws r ht

/-- For one `VecFrameStack` sub-stack the statement reads: the stacked terminal observation is what `update`
would have returned had the terminal observation been an ordinary one. -/
theorem framestack_terminal_like_obs (first : Bool) (buf o t : Arr) (hs : o.shape = t.shape)
    (hl : o.data.length = t.data.length) :
    (updateArr first buf o true (some t)).2 = some (updateArr first buf t false none).1 :=
  Lemmas.Wrappers.updateArr_terminal_alike first buf o t hs hl

/-! ### Returned observations belong to the declared observation space (keys, shapes, sizes) -/

/-- **`obs_in_declared_space`** (shape level): for every type-correct stack of wrappers built by the
constructors (`buildStack`, any wrappers in any order, any `n_stack`, channel orders, per-key orders) over any
base space with distinct keys, shapes of rank ≥ 1 and no empty dimension (`SpaceOK`), and for every history of `reset`/`step` calls whose inputs
obey the VecEnv contract (`OpOK`), every observation and every `terminal_observation` the stack returns has
exactly the keys, shapes and element counts of the observation space the stack declares. -/
theorem obs_in_declared_space (cfgs : List WCfg) (sp sp' : Space) (ws : List WS)
    (hb : buildStack cfgs sp = .ok (ws, sp')) (hsp : SpaceOK sp) (ops : List Op) (hops : ∀ op ∈ ops, OpOK sp op) :
    ∀ o ∈ stackOutputs ws ops, obsSig o = spaceSig sp' := by
  -- the invariant of `Lemmas/Wrappers.lean` carries a property of the entries too: here the trivial one
  have hsg := Lemmas.Wrappers.sigOK_of_spaceOK sp hsp
  obtain ⟨Q', hinv, _⟩ := Lemmas.Wrappers.buildStack_inv cfgs sp sp' ws (fun _ _ => True) hb hsg fun _ => trivial
  intro o ho
  refine (Lemmas.Wrappers.stackOutputs_inv ops _ _ _ Q' ws hinv hsg (fun _ => trivial) ?_ o ho).1
  intro op hop
  have := hops op hop
  cases op with
  | reset o => exact ⟨this, fun _ _ _ _ => trivial⟩
  | step r => exact ⟨⟨this.1, fun _ _ _ _ => trivial⟩, fun t ht => ⟨this.2.1 t ht, fun _ _ _ _ => trivial⟩, this.2.2⟩

/-- The shape check the driver applies to every input (`obsHasShape`) is the hypothesis of the theorem. -/
theorem obsHasShape_iff (sp : Space) (o : Obs) : obsHasShape sp o = true ↔ obsSig o = spaceSig sp := by
  -- a signature is the shapes together with the sizes they determine: always for a space, for an observation when its
  -- arrays are well formed
  have hsp : spaceSig sp = (shapesOfSpace sp).map fun e => (e.1, e.2, prod e.2) := by
    rw [shapesOfSpace, List.map_map]; rfl
  have ho : (∀ kv ∈ o, kv.2.wf = true) → obsSig o = (shapesOfObs o).map fun e => (e.1, e.2, prod e.2) := by
    intro h
    rw [shapesOfObs, List.map_map]
    exact List.map_congr_left fun kv hkv => by rw [Function.comp, ← eq_of_beq (h kv hkv)]
  simp only [obsHasShape, Bool.and_eq_true, beq_iff_eq, List.all_eq_true]
  refine ⟨fun ⟨h1, h2⟩ => by rw [ho h2, h1, hsp], fun h => ⟨?_, fun kv hkv => ?_⟩⟩
  · have := congrArg (List.map fun e => (e.1, e.2.1)) h
    rwa [obsSig, spaceSig, List.map_map, List.map_map] at this
  · have hm : (kv.1, kv.2.shape, kv.2.data.length) ∈ obsSig o := List.mem_map_of_mem hkv
    rw [h] at hm
    obtain ⟨kb, _, e⟩ := List.mem_map.mp hm
    injection e with _ e
    injection e with e1 e2
    exact beq_iff_eq.mpr (by rw [← e2, ← e1])

/-- The declared shape of a frame stack: the stacking axis is multiplied by `n`, the element count too. -/
theorem stacked_space_shape (n : Nat) (first : Bool) (b : Box) (hne : b.shape ≠ []) :
    (stackedBox n first b).shape = stackedShape n first b.shape ∧
      prod (stackedBox n first b).shape = n * prod b.shape :=
  ⟨rfl, Lemmas.Wrappers.prod_stackedShape first n b.shape hne⟩

/-! ### Membership in the declared observation space (bounds of a frame stack) -/

/-- **`obs_in_declared_space_bounds_partial`** (full membership, bounds included, for every stack): when every box
of the base space has one scalar pair of bounds `lo ≤ 0 ≤ hi` (a sufficient hypothesis; what is really needed is
that 0 lies inside the bounds — see `obs_in_declared_space_counterexample_zero_padding`; for one `VecFrameStack`
`stack_in_declared_bounds_partial` below allows per-coordinate bounds of any form), then for every type-correct
stack of wrappers in any order and every history whose inputs obey the VecEnv contract (`OpOK`) and are members of
the base space (`OpIn`), every observation and
every `terminal_observation` the stack returns is a member (`Space.contains`: keys, shapes, bounds) of the
observation space the stack declares. -/
theorem obs_in_declared_space_bounds_partial (cfgs : List WCfg) (sp sp' : Space) (ws : List WS)
    (hb : buildStack cfgs sp = .ok (ws, sp')) (hsp : SpaceOK sp) (hsc : ScalarBounds sp) (ops : List Op)
    (hops : ∀ op ∈ ops, OpOK sp op ∧ OpIn sp op) :
    ∀ o ∈ stackOutputs ws ops, sp'.contains o = true := by
  open Lemmas.Wrappers in
  have hsg := sigOK_of_spaceOK sp hsp
  obtain ⟨Q, hB, hz⟩ := exists_spaceB sp hsp hsc
  obtain ⟨Q', hinv, hB'⟩ := buildStack_inv cfgs sp sp' ws Q hb hsg hz
  intro o ho
  -- members of a space with scalar bounds are the observations with its signature and entries inside the bounds
  refine (contains_iff sp' Q' (hB' hB) o).mpr
    (stackOutputs_inv ops (spaceSig sp) Q (spaceSig sp') Q' ws hinv hsg hz (fun op hop => ?_) o ho)
  obtain ⟨h1, h2⟩ := hops op hop
  cases op with
  | reset o0 => exact (contains_iff sp Q hB o0).mp h2
  | step r =>
    exact ⟨(contains_iff sp Q hB r.obs).mp h2.1, fun t ht => (contains_iff sp Q hB t).mp (h2.2 t ht), h1.2.2⟩

/-- **`stack_in_declared_bounds_partial`** (one `VecFrameStack`, per-coordinate bounds of any form): for every `n`,
both stacking axes, every Box and every episode of frames that are members of the Box, the stack (zero padding
included) is a member of the stacked space declared by `StackedObservations` (bounds tiled along the stacking
axis) — provided the zero frame is itself inside the Box's bounds (the missing hypothesis, finding K-C17-b). No
uniformity of the bounds along the stacking axis is needed any more (fix e25cae6 of finding K-C17-a). -/
theorem stack_in_declared_bounds_partial (first : Bool) (n : Nat) (b : Box) (ep : List Arr)
    (hz : b.contains (Arr.zeros b.shape) = true) (hep : ∀ f ∈ ep, b.contains f = true) :
    (stackedBox n first b).contains (stackOf first n b.shape ep) = true := by
  open Lemmas.Wrappers in
  have hwz : WB b.low b.high (Arr.zeros b.shape).data := by
    simp only [Box.contains, Bool.and_eq_true] at hz
    exact (withinBounds_iff_WB _ _ _).mp hz.2
  have hwf : ∀ f ∈ paddedFrames n (Arr.zeros b.shape) ep, WB b.low b.high f.data := by
    intro f hf
    rcases mem_paddedFrames _ _ _ _ hf with h | h
    · rw [h]; exact hwz
    · have := hep f h
      simp only [Box.contains, Bool.and_eq_true] at this
      exact (withinBounds_iff_WB _ _ _).mp this.2
  have hlen := paddedFrames_length n (Arr.zeros b.shape) ep
  simp only [Box.contains, stackedBox, stackOf_shape, beq_self_eq_true, Bool.true_and]
  rw [withinBounds_iff_WB]
  simp only [tileAxis, stackOf, concatFrames]
  apply WB_flatMap_range
  intro r _
  have := WB_flatMap_frames (fun f : Arr => row (rowLen first (Arr.zeros b.shape)) r f.data) ⟨b.shape, b.low⟩
    ⟨b.shape, b.high⟩ (paddedFrames n (Arr.zeros b.shape) ep) (fun f hf => WB_row _ _ _ _ _ (hwf f hf))
  rw [hlen] at this
  exact this

/-- **Why the old formula was wrong (finding K-C17-a, fixed by e25cae6)**: with the bounds built by
`np.repeat` (`stackedBoxOld`) the statement above was false: `Box(low=[0,-5], high=[5,0])`, `n = 2`, frame
`[5,-5]` (a member, and so is the zero frame): the stack `[5,-5,5,-5]` was outside the declared bounds
`low = [0,0,-5,-5]`; the tiled bounds `[0,-5,0,-5]` of the current code contain it. -/
theorem old_repeat_bounds_counterexample :
    (¬ ∀ (n : Nat) (first : Bool) (b : Box) (ep : List Arr),
        b.contains (Arr.zeros b.shape) = true → (∀ f ∈ ep, b.contains f = true) →
          (stackedBoxOld n first b).contains (stackOf first n b.shape ep) = true) ∧
      (stackedBox 2 false ⟨[2], [0, -5], [5, 0], "float32"⟩).contains
        (stackOf false 2 [2] [⟨[2], [5, -5]⟩, ⟨[2], [5, -5]⟩]) = true := by
  constructor
  · intro h
    have := h 2 false ⟨[2], [0, -5], [5, 0], "float32"⟩ [⟨[2], [5, -5]⟩, ⟨[2], [5, -5]⟩] (by decide) (by decide)
    revert this
    decide
  · decide

/-- **Counterexample (finding K-C17-b)**: with scalar bounds that exclude 0 (`Box(low=1, high=9)`) the
zero-padded stack after a reset, `[0, 5]`, is outside the declared space `Box(1, 9, (2,))`. -/
theorem obs_in_declared_space_counterexample_zero_padding :
    ¬ ∀ (n : Nat) (first : Bool) (b : Box) (ep : List Arr),
        (∀ f ∈ ep, b.contains f = true) →
          (stackedBox n first b).contains (stackOf first n b.shape ep) = true := by
  intro h
  have := h 2 false ⟨[1], [1], [9], "float32"⟩ [⟨[1], [5]⟩] (by decide)
  revert this
  decide

/-! ### Transposition and projection are what they say -/

/-- **`transpose_index`**: `VecTransposeImage` sends element `[i, j, k]` of an `H×W×C` array to `[k, i, j]` of
a `C×H×W` array (C order on both sides). -/
theorem transpose_index (h w c : Nat) (d : List Int) (i j k : Nat) (hi : i < h) (hj : j < w) (hk : k < c) :
    (transposeHWC ⟨[h, w, c], d⟩).shape = [c, h, w] ∧
      (transposeHWC ⟨[h, w, c], d⟩).data.getD ((k * h + i) * w + j) 0 = d.getD ((i * w + j) * c + k) 0 := by
  refine ⟨rfl, ?_⟩
  open Lemmas.Wrappers in
  have hp : i * w + j < h * w := by
    have : (i + 1) * w ≤ h * w := Nat.mul_le_mul_right w hi
    rw [Nat.succ_mul] at this
    omega
  have hidx : (k * h + i) * w + j = k * (h * w) + (i * w + j) := by
    rw [Nat.add_mul, Nat.mul_assoc, Nat.add_assoc]
  simp only [transposeHWC]
  rw [hidx, getD_flatMap (h * w) _ (List.range c) (fun r _ => by rw [List.length_map, List.length_range]) k (i * w + j)
    (by rw [List.length_range]; exact hk) hp, List.getElem_range]
  simp only [List.getD_eq_getElem?_getD, List.getElem?_map, List.getElem?_range hp, Option.map_some, Option.getD_some]

/-- **`extract_is_projection`**: `VecExtractDictObs` returns the value stored under its key, for observations
and terminal observations alike, whatever `done` says. -/
theorem extract_is_projection (key : String) (r : Rec) :
    ((WS.extract key).step r).2.obs = [("", getKey key r.obs)] ∧
      ((WS.extract key).step r).2.info.terminal = r.info.terminal.map fun t => [("", getKey key t)] :=
  ⟨rfl, rfl⟩

/-! ### Dict observations: one independent sub-stack per key -/

/-- **`framestack_dict_keywise`**: on a Dict observation (distinct keys) the value returned under key `k` is the
result of the `StackedObservations.update` of key `k`'s own sub-stack (own window, own stacking axis) on key
`k`'s observation and key `k`'s terminal observation — so `framestack_spec`/`terminal_stack_spec` apply per key. -/
theorem framestack_dict_keywise (firsts : List (String × Bool)) (bufs obs : Obs) (done : Bool) (term : Option Obs)
    (hnd : KeysNodup obs) (kv : String × Arr) (hkv : kv ∈ obs) :
    getKey kv.1 (fsUpdate firsts bufs obs done term).1 =
      (updateArr (firstOf firsts kv.1) (getKey kv.1 bufs) kv.2 done (term.map (getKey kv.1))).1 :=
  Lemmas.Wrappers.fsUpdate_keywise firsts bufs obs done term hnd kv hkv

theorem framestack_dict_keywise_terminal (firsts : List (String × Bool)) (bufs obs t : Obs)
    (hnd : KeysNodup obs) (kv : String × Arr) (hkv : kv ∈ obs) :
    ((fsUpdate firsts bufs obs true (some t)).2.map (getKey kv.1)) =
      (updateArr (firstOf firsts kv.1) (getKey kv.1 bufs) kv.2 true (some (getKey kv.1 t))).2 := by
  open Lemmas.Wrappers in
  simp only [fsUpdate, if_true, Option.map_some]
  rw [getKey_map obs hnd _ kv hkv]
  simp [updateArr]

theorem framestack_dict_keywise_reset (firsts : List (String × Bool)) (bufs obs : Obs)
    (hnd : KeysNodup obs) (kv : String × Arr) (hkv : kv ∈ obs) :
    getKey kv.1 (fsReset firsts bufs obs) = resetArr (firstOf firsts kv.1) (getKey kv.1 bufs) kv.2 :=
  Lemmas.Wrappers.fsReset_keywise firsts bufs obs hnd kv hkv

/-- **`framestack_dict_spec`**: for a Dict observation space, every key `k` of a `VecFrameStack`, every history of
`reset`/`step` calls (distinct keys, `k` present, key `k`'s arrays are frames of key `k`'s sub-space): the window
stored and returned under `k` is the stack — along key `k`'s own stacking axis — of the last `n` values of key `k`
in the current episode, zero padded. Keys do not influence each other. -/
theorem framestack_dict_spec (firsts : List (String × Bool)) (n : Nat) (k : String) (shape : List Nat)
    (hn : 0 < n) (hne : shape ≠ []) (hpos : 0 < prod shape) (bufs : Obs)
    (hb : getKey k bufs = Arr.zeros (stackedShape n (firstOf firsts k) shape)) (ops : List Op)
    (hk : ∀ op ∈ ops, KeysNodup op.obs ∧ k ∈ op.obs.map (·.1))
    (hev : ∀ op ∈ ops, EvOK shape (op.proj k)) :
    getKey k (fsRunObs firsts bufs ops) =
      stackOf (firstOf firsts k) n shape (curEpisode [] (ops.map (Op.proj k))) := by
  rw [Lemmas.Wrappers.fsRunObs_keywise firsts k ops bufs hk, hb]
  apply framestack_spec (firstOf firsts k) n shape hn hne hpos
  intro e he
  obtain ⟨op, hop, rfl⟩ := List.mem_map.mp he
  exact hev op hop

/-- One `step` / `reset` of the model's `VecFrameStack` wrapper stores and returns `fsUpdate` / `fsReset` of its
windows: the two functions `fsRunObs` folds along a history. -/
theorem fsRunObs_is_wrapper_state (firsts : List (String × Bool)) (bufs : Obs) (r : Rec) (o : Obs) :
    ((WS.frameStack firsts bufs).step r).1 = .frameStack firsts (fsUpdate firsts bufs r.obs r.done r.info.terminal).1 ∧
      ((WS.frameStack firsts bufs).step r).2.obs = (fsUpdate firsts bufs r.obs r.done r.info.terminal).1 ∧
      ((WS.frameStack firsts bufs).reset o).1 = .frameStack firsts (fsReset firsts bufs o) ∧
      ((WS.frameStack firsts bufs).reset o).2 = fsReset firsts bufs o :=
  ⟨rfl, rfl, rfl, rfl⟩

/-! ### End to end: the wrapped VecEnv still satisfies C01's contract (composition with `SB3Verif.VecEnv`)

Thin re-exports of `SB3Verif/Props/C17C01.lean` (definitions `recOf`, `wrappedStep`, `wrappedReset` there), so that the
axiom audit of this file covers them. -/

/-- **`c01_wrapped_step_contract`**: for C01's base vectorised environment (either implementation, any well-formed
state `v.WF`, any `n`, any sub-environment answers) under ANY stack of wrappers (any order, any states): `done =
terminated ∨ truncated`, `TimeLimit.truncated = truncated ∧ ¬terminated`, reward passed through; on a continuing
episode (the sub-environment's own `info` holding no `terminal_observation`) no `terminal_observation` and the
observation is the stack's transformation of the sub-environment's; on an ending episode (the first observation of the
next episode having the keys, shapes and sizes of the last one, whose keys are distinct) `terminal_observation` = the
pre-reset stack's transformation of the sub-environment's last observation and the returned observation = the stack's
`reset` of the first observation of the next episode. -/
theorem c01_wrapped_step_contract (v : VecEnv.Vec Obs Int) (hwf : v.WF) (sts : List (List WS))
    (hs : sts.length = v.n) (acts : List Int) (xs : List (VecEnv.StepResp Obs Int))
    (hv : (VecEnv.Op.step acts xs).valid v.n = true) (i : Nat) (hi : i < v.n) (a : Int)
    (x : VecEnv.StepResp Obs Int) (ha : acts[i]? = some a) (hx : xs[i]? = some x) :
    ∃ R, (C17C01.wrappedStep v sts acts xs).2[i]? = some R ∧
      R.done = (x.raw.terminated || x.raw.truncated) ∧
      R.info.truncated = (x.raw.truncated && !x.raw.terminated) ∧
      R.rew = x.raw.rew ∧
      ((x.raw.terminated || x.raw.truncated) = false →
        VecEnv.dictGet x.raw.info "terminal_observation" = none →
          R.info.terminal = none ∧ R.obs = stackObsFn (sts[i]'(hs ▸ hi)) x.raw.obs) ∧
      ((x.raw.terminated || x.raw.truncated) = true → ∀ z, x.rst = some z →
        obsSig z.obs = obsSig x.raw.obs → KeysNodup x.raw.obs →
          R.info.terminal = some (stackObsFn (sts[i]'(hs ▸ hi)) x.raw.obs) ∧
          R.obs = (stackReset (sts[i]'(hs ▸ hi)) z.obs).2) :=
  C17C01.wrapped_step_contract v hwf sts hs acts xs hv i hi a x ha hx

/-- `reset()` of the wrapped environment: the stack's `reset` of what sub-environment `i` answered. -/
theorem c01_wrapped_reset_contract (v : VecEnv.Vec Obs Int) (hwf : v.WF) (sts : List (List WS))
    (hs : sts.length = v.n) (zs : List (VecEnv.ResetRes Obs)) (hz : zs.length = v.n) (i : Nat) (hi : i < v.n)
    (z : VecEnv.ResetRes Obs) (hzi : zs[i]? = some z) :
    (C17C01.wrappedReset v sts zs).2[i]? = some (stackReset (sts[i]'(hs ▸ hi)) z.obs).2 :=
  C17C01.wrapped_reset_contract v hwf sts hs zs hz i hi z hzi

/-- **`c01_wrapped_framestack_autoreset_window`**: VecFrameStack over C01's base environment: after an automatic
reset the returned window holds `n - 1` zero frames and the first observation of the new episode — no frame of the
finished episode — and `terminal_observation` is the stack of the finished episode completed by its last observation,
whatever history `h` environment `i` had before. -/
theorem c01_wrapped_framestack_autoreset_window (v : VecEnv.Vec Obs Int) (hwf : v.WF) (sts : List (List WS))
    (hs : sts.length = v.n) (acts : List Int) (xs : List (VecEnv.StepResp Obs Int))
    (hv : (VecEnv.Op.step acts xs).valid v.n = true) (i : Nat) (hi : i < v.n) (a : Int)
    (x : VecEnv.StepResp Obs Int) (ha : acts[i]? = some a) (hx : xs[i]? = some x)
    (hdone : (x.raw.terminated || x.raw.truncated) = true) (z : VecEnv.ResetRes Obs) (hz : x.rst = some z)
    (first : Bool) (n : Nat) (shape : List Nat) (hn : 0 < n) (hne : shape ≠ []) (hpos : 0 < prod shape)
    (h : List FEv) (hh : ∀ e ∈ h, EvOK shape e)
    (hst : sts[i]'(hs ▸ hi) = [WS.frameStack [("", first)] [("", fsRun first (Arr.zeros (stackedShape n first shape)) h)]])
    (last next : Arr) (hlast : x.raw.obs = [("", last)]) (hnext : z.obs = [("", next)])
    (hl : FrameOK shape last) (hnx : FrameOK shape next) :
    ∃ R, (C17C01.wrappedStep v sts acts xs).2[i]? = some R ∧
      R.obs = [("", stackOf first n shape [next])] ∧
      R.info.terminal = some [("", stackOf first n shape (curEpisode [] h ++ [last]))] :=
  C17C01.wrapped_framestack_autoreset_window v hwf sts hs acts xs hv i hi a x ha hx hdone z hz first n shape hn hne hpos
    h hh hst last next hlast hnext hl hnx

/-- On a step that ends the episode, any stack returns what its `reset()` would return for the same observation
(for `VecFrameStack`: zeros and the new frame — nothing of the old episode). -/
theorem done_obs_is_reset_obs (ws : List WS) (r : Rec) (hd : r.done = true) :
    (stackStep ws r).2.obs = (stackReset ws r.obs).2 := by
  rw [Lemmas.Wrappers.stackReset_eq_step ws r hd]

/-! ### Non-vacuity -/

/-- hypotheses of `terminal_like_obs` on a Dict observation under FrameStack → Transpose → Extract → Monitor -/
example :
    let o : Obs := [("img", ⟨[1, 2, 2], [1, 2, 3, 4]⟩), ("vec", ⟨[2], [5, 6]⟩)]
    let t : Obs := [("img", ⟨[1, 2, 2], [7, 8, 9, 10]⟩), ("vec", ⟨[2], [11, 12]⟩)]
    let ws : List WS := [.frameStack [("img", false), ("vec", false)]
        [("img", ⟨[1, 2, 4], [0, 0, 1, 1, 0, 0, 1, 1]⟩), ("vec", ⟨[4], [0, 0, 2, 2]⟩)],
      .transpose ["img"], .extract "img", .monitor 3 1]
    obsSig o = obsSig t ∧ KeysNodup t ∧
      (stackStep ws ⟨o, 1, true, ⟨some t, false, none, 0⟩⟩).2.info.terminal =
        some [("", ⟨[4, 1, 2], [1, 1, 1, 1, 7, 9, 8, 10]⟩)] := by
  intro o t ws
  unfold KeysNodup
  decide +kernel

/-- a history with a length-1 episode and an episode shorter than the stack (n = 3), stacking on the last
axis of a 2×2 box: hypotheses of `framestack_spec` hold and the result is the expected window -/
example : ∀ e ∈ [FEv.reset ⟨[2, 2], [1, 2, 3, 4]⟩, FEv.step ⟨[2, 2], [5, 6, 7, 8]⟩ true (some ⟨[2, 2], [9, 9, 9, 9]⟩),
    FEv.step ⟨[2, 2], [1, 1, 1, 1]⟩ false none], EvOK [2, 2] e := by
  simp only [EvOK, FrameOK]
  decide +kernel

example : fsRun false (Arr.zeros (stackedShape 3 false [2, 2]))
    [FEv.reset ⟨[2, 2], [1, 2, 3, 4]⟩, FEv.step ⟨[2, 2], [5, 6, 7, 8]⟩ true (some ⟨[2, 2], [9, 9, 9, 9]⟩),
     FEv.step ⟨[2, 2], [1, 1, 1, 1]⟩ false none] = ⟨[2, 6], [0, 0, 5, 6, 1, 1, 0, 0, 7, 8, 1, 1]⟩ := by decide +kernel

example : (updateArr true (fsRun true (Arr.zeros (stackedShape 3 true [2, 2])) [FEv.reset ⟨[2, 2], [1, 2, 3, 4]⟩])
    ⟨[2, 2], [5, 6, 7, 8]⟩ true (some ⟨[2, 2], [9, 9, 9, 9]⟩)).2 =
      some ⟨[6, 2], [0, 0, 0, 0, 1, 2, 3, 4, 9, 9, 9, 9]⟩ := by decide +kernel

/-- hypotheses of `stack_in_declared_bounds_partial` on a box whose bounds differ along the stacking axis, episode
shorter than the stack: zero frame and frame are members, and so is the stack -/
example : (⟨[2], [0, -5], [5, 0], "float32"⟩ : Box).contains (Arr.zeros [2]) = true ∧
    (⟨[2], [0, -5], [5, 0], "float32"⟩ : Box).contains ⟨[2], [5, -5]⟩ = true ∧
    (stackedBox 3 false ⟨[2], [0, -5], [5, 0], "float32"⟩).contains
      (stackOf false 3 [2] [⟨[2], [5, -5]⟩]) = true := by decide +kernel

/-- hypotheses of `obs_in_declared_space`: a Dict space, FrameStack(per-key orders) → Transpose → Extract,
a history with a reset and an episode end -/
example :
    let sp : Space := ⟨true, [("img", ⟨[3, 3, 1], List.replicate 9 0, List.replicate 9 255, "uint8"⟩),
                             ("vec", ⟨[2], [0, 0], [9, 9], "float32"⟩)]⟩
    let cfgs : List WCfg := [.frameStack 2 (.perKey [("img", .auto), ("vec", .first)]), .transpose false,
                             .extract "img"]
    (buildStack cfgs sp).toOption.map (fun x => spaceSig x.2) = some [("", [2, 3, 3], 18)] := by
  decide +kernel

example : SpaceOK ⟨true, [("img", ⟨[2, 2, 1], [0, 0, 0, 0], [255, 255, 255, 255], "uint8"⟩),
                          ("vec", ⟨[2], [0, 0], [9, 9], "float32"⟩)]⟩ := by
  unfold SpaceOK; decide

example : OpOK ⟨false, [("", ⟨[2], [0, 0], [9, 9], "float32"⟩)]⟩
    (.step ⟨[("", ⟨[2], [1, 2]⟩)], 1, true, ⟨some [("", ⟨[2], [3, 4]⟩)], false, none, 0⟩⟩) := by
  unfold OpOK; decide

/-- hypotheses of `obs_in_declared_space_bounds_partial`: an image space has scalar bounds containing 0, and a
scripted observation is a member -/
example : ScalarBounds ⟨false, [("", ⟨[1, 1, 2], [0, 0], [255, 255], "uint8"⟩)]⟩ := by
  intro kb hkb
  simp only [List.mem_singleton] at hkb
  subst hkb
  exact ⟨0, 255, by decide, by decide, by decide, by decide⟩

example : OpIn ⟨false, [("", ⟨[1, 1, 2], [0, 0], [255, 255], "uint8"⟩)]⟩
    (.step ⟨[("", ⟨[1, 1, 2], [7, 255]⟩)], 1, true, ⟨some [("", ⟨[1, 1, 2], [3, 4]⟩)], false, none, 0⟩⟩) := by
  unfold OpIn; decide

/-- `framestack_done_window_any_terminal` with NO terminal observation supplied: the window after the done step holds
only the new frame `[5,6,7,8]` (zero padded), nothing of the old episode `[1,2,3,4]`, and no terminal is invented -/
example : updateArr false (fsRun false (Arr.zeros (stackedShape 3 false [2, 2])) [FEv.reset ⟨[2, 2], [1, 2, 3, 4]⟩])
    ⟨[2, 2], [5, 6, 7, 8]⟩ true none = (⟨[2, 6], [0, 0, 0, 0, 5, 6, 0, 0, 0, 0, 7, 8]⟩, none) := by decide +kernel

end SB3Verif.C17
