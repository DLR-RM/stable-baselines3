/-
C06 — On-policy collection records what happened and bootstraps time-limit truncations.

Property theorems and the data of their examples (helper lemmas are in `SB3Verif/Lemmas/OnPolicy.lean`). All statements are about the
executable model `SB3Verif/Model/OnPolicy.lean`, whose definitions the driver `SB3Verif/Driver/C06.lean`
runs against real PPO / A2C training runs on scripted environments.

Quantifiers: every statement holds for every environment index `e` (so for every `n_envs ≥ 1`), every
number of steps, every stream of environment outputs (all episode scripts) and of policy samples, every
critic `V`, every `γ`, every way of cutting the steps into rollouts and `learn()` calls.
-/
import SB3Verif.Lemmas.OnPolicy

namespace SB3Verif.C06

open SB3Verif.OnPolicy

section collection
variable {O A α : Type} [Add α] [Mul α]

/-- **Slot contents.** Let `p` be the state in front of step `t` of a rollout — the carried state `c` for
`t = 0`, otherwise what step `t-1` left (`new_obs`, `dones`) — and `x` the externals of step `t`. Then slot
`(t, e)` holds: the observation the policy saw, the action it sampled (as sampled), the environment's reward
after time-limit handling, the episode-start flag `p.lastStarts e`, and the value / log-probability the
current policy assigns to that observation / action. -/
theorem slot_contents (γ : α) (V : O → α) (f : A → A) (c : Carry O) (xs : List (StepIn O A α))
    (t : ℕ) (p : Carry O) (x : StepIn O A α)
    (hp : (c :: xs.map carryOf)[t]? = some p) (hx : xs[t]? = some x) (e : ℕ) :
    ((collectRollout γ V f c xs).rows[t]?).map (fun row => row e) =
      some { obs := p.lastObs e
             action := (x.sample e).action
             reward := rewardOf γ V (x.out e)
             start := p.lastStarts e
             value := V (p.lastObs e)
             logp := (x.sample e).logp } := by
  rw [Lemmas.collectRollout_rows, List.getElem?_zipWith, hp, hx]; rfl

/-- A rollout of `n_steps` iterations fills exactly `n_steps` rows. -/
theorem rows_length (γ : α) (V : O → α) (f : A → A) (c : Carry O) (xs : List (StepIn O A α)) :
    (collectRollout γ V f c xs).rows.length = xs.length :=
  Lemmas.collectRollout_rows_length γ V f c xs

/-- **Episode start = previous done, observation = previous successor** inside a rollout: the slot of step
`t+1` holds the observation returned by step `t` and the `done` flag of step `t`. -/
theorem episode_start_is_previous_done (γ : α) (V : O → α) (f : A → A) (c : Carry O)
    (xs : List (StepIn O A α)) (t : ℕ) (x₀ x₁ : StepIn O A α)
    (h₀ : xs[t]? = some x₀) (h₁ : xs[t + 1]? = some x₁) (e : ℕ) :
    ((collectRollout γ V f c xs).rows[t + 1]?).map (fun row => ((row e).obs, (row e).start)) =
      some ((x₀.out e).obs, (x₀.out e).done) := by
  have hp : (c :: xs.map carryOf)[t + 1]? = some (carryOf x₀) := by
    rw [List.getElem?_cons_succ, List.getElem?_map, h₀]; rfl
  rw [Lemmas.collectRollout_rows, List.getElem?_zipWith, hp, h₁]; rfl

/-- The first slot of a rollout holds the carried observation and the carried episode-start flag. -/
theorem first_slot_from_carry (γ : α) (V : O → α) (f : A → A) (c : Carry O) (x : StepIn O A α)
    (xs : List (StepIn O A α)) (e : ℕ) :
    ((collectRollout γ V f c (x :: xs)).rows[0]?).map (fun row => ((row e).obs, (row e).start, (row e).value)) =
      some (c.lastObs e, c.lastStarts e, V (c.lastObs e)) := rfl

/-- **The buffer keeps the sampled action**: the rows do not depend on the clip / unscale map at all. -/
theorem buffer_keeps_unclipped (γ : α) (V : O → α) (f g : A → A) (c : Carry O) (xs : List (StepIn O A α)) :
    (collectRollout γ V f c xs).rows = (collectRollout γ V g c xs).rows := by
  rw [Lemmas.collectRollout_rows, Lemmas.collectRollout_rows]

/-- **The environment receives the transformed action**: at step `t`, sub-environment `e` is stepped with
`f (sampled action)`, `f` being the clip / unscale / identity map of the action space. -/
theorem env_receives_transformed (γ : α) (V : O → α) (f : A → A) (c : Carry O) (xs : List (StepIn O A α))
    (t : ℕ) (e : ℕ) :
    ((collectRollout γ V f c xs).envActs[t]?).map (fun a => a e) =
      (xs[t]?).map (fun x => f (x.sample e).action) := by
  rw [Lemmas.collectRollout_envActs, List.getElem?_map, Option.map_map]; rfl

/-- **Bootstrap rule at the `VecEnv` interface**: the stored reward is `r + γ·V(terminal observation)` when
`done`, a terminal observation is present and the `TimeLimit.truncated` flag is set; it is `r` in every other
case. The `γ` is the algorithm's `γ`, the `V` the critic that also produced the slot values. -/
theorem reward_bootstrap (γ : α) (V : O → α) (o : VOut O α) :
    rewardOf γ V o =
      match o.terminalObs with
      | some tobs => if o.done && o.timeLimit then o.reward + γ * V tobs else o.reward
      | none => o.reward := by
  obtain ⟨_, _, done, tobs, tl⟩ := o
  cases done <;> cases tobs <;> cases tl <;> rfl

/-- **Exactly on time-limit truncation** (end to end through the vectorised environment): the reward is
increased by `γ·V(last observation of the episode)` iff the episode was truncated and not terminated. -/
theorem reward_bootstrap_exact (γ : α) (V : O → α) (r : Raw O α) :
    rewardOf γ V (vecOut r) =
      if r.truncated && !r.terminated then r.reward + γ * V r.obs else r.reward := by
  obtain ⟨_, _, term, trunc, _, st, _⟩ := r
  cases term <;> cases trunc
  · cases st <;> rfl
  all_goals rfl

/-- **The `done` guard**: the same exact rule holds for a vectorised environment that writes
`TimeLimit.truncated` / `terminal_observation` only when an episode ends, fed by sub-environments that return one
info dict object for their whole life — the stale `TimeLimit.truncated = True` and stale `terminal_observation`
of an earlier truncated episode, still visible on later steps, never change a reward, whatever they are. -/
theorem reward_bootstrap_exact_lazy (γ : α) (V : O → α) (r : Raw O α) :
    rewardOf γ V (vecOutLazy r) =
      if r.truncated && !r.terminated then r.reward + γ * V r.obs else r.reward := by
  obtain ⟨_, _, term, trunc, _, st, sl⟩ := r
  cases term <;> cases trunc
  -- only a running step shows the stale keys, and there `done = false` guards
  · cases st <;> cases sl <;> rfl
  all_goals rfl

/-- Hence the stored reward does not depend on what the reused info dict still carries. -/
theorem stale_info_keys_ignored (γ : α) (V : O → α) (r : Raw O α) (st : Option O) (sf : Bool) :
    rewardOf γ V (vecOutLazy { r with staleTerminal := st, staleTimeLimit := sf }) = rewardOf γ V (vecOutLazy r) ∧
      rewardOf γ V (vecOut { r with staleTerminal := st, staleTimeLimit := sf }) = rewardOf γ V (vecOut r) :=
  ⟨by rw [reward_bootstrap_exact_lazy, reward_bootstrap_exact_lazy],
    by rw [reward_bootstrap_exact, reward_bootstrap_exact]⟩

/-- truncated, not terminated ⇒ bootstrapped with the value of the *terminal* observation (not of the
observation of the next episode, which is what `new_obs` holds). -/
theorem reward_truncated (γ : α) (V : O → α) (r : Raw O α) (h₁ : r.truncated = true) (h₂ : r.terminated = false) :
    rewardOf γ V (vecOut r) = r.reward + γ * V r.obs ∧ (vecOut r).obs = r.resetObs :=
  ⟨by rw [reward_bootstrap_exact]; simp [h₁, h₂], by simp [vecOut, h₁, h₂]⟩

/-- terminated (with or without a simultaneous truncation) ⇒ never bootstrapped. -/
theorem reward_terminated (γ : α) (V : O → α) (r : Raw O α) (h : r.terminated = true) :
    rewardOf γ V (vecOut r) = r.reward := by
  simp [reward_bootstrap_exact, h]

/-- episode continues ⇒ the environment's reward, and the next observation is the step's own. -/
theorem reward_running (γ : α) (V : O → α) (r : Raw O α) (h₁ : r.terminated = false) (h₂ : r.truncated = false) :
    rewardOf γ V (vecOut r) = r.reward ∧ (vecOut r).obs = r.obs ∧ (vecOut r).done = false :=
  ⟨by rw [reward_bootstrap_exact]; simp [h₁, h₂], by simp [vecOut, h₁, h₂], by simp [vecOut, h₁, h₂]⟩

/-- **Last values from the successor observation**: `compute_returns_and_advantage` receives the values of
the observation returned by the last step of the rollout, and that step's `dones`. -/
theorem last_values_from_successor (γ : α) (V : O → α) (f : A → A) (c : Carry O) (xs : List (StepIn O A α))
    (x : StepIn O A α) (hx : xs.getLast? = some x) (e : ℕ) :
    (collectRollout γ V f c xs).lastValues e = V ((x.out e).obs) ∧
      (collectRollout γ V f c xs).lastDones e = (x.out e).done := by
  unfold collectRollout
  rw [hx]
  exact ⟨rfl, rfl⟩

/-- The observation / flags used for the last values are exactly the state carried into the next rollout. -/
theorem last_values_eq_carry (γ : α) (V : O → α) (f : A → A) (c : Carry O) (xs : List (StepIn O A α)) (e : ℕ) :
    (collectRollout γ V f c xs).lastValues e = V ((collectRollout γ V f c xs).carry.lastObs e) ∧
      (collectRollout γ V f c xs).lastDones e = (collectRollout γ V f c xs).carry.lastStarts e := by
  rw [Lemmas.collectRollout_carry]
  unfold collectRollout
  cases xs.getLast? <;> exact ⟨rfl, rfl⟩

/-- After a rollout the carried state is what its last step returned (unchanged if there was no step). -/
theorem rollout_carry (γ : α) (V : O → α) (f : A → A) (c : Carry O) (xs : List (StepIn O A α)) :
    (collectRollout γ V f c xs).carry = (xs.getLast?.map carryOf).getD c :=
  Lemmas.collectRollout_carry γ V f c xs

omit [Add α] [Mul α] in
/-- **`set_env` / `load(env=…)` restart the carried state.** They forget the last observation (`_last_obs = None`); the next
`learn()` call then resets the environment whatever `reset_num_timesteps` says, and BOTH carried pieces restart together:
the observation is the reset observation and every episode-start flag is true — exactly the state a resetting `learn()`
produces from any previous state `c`. (The driver's `set_env` operation is this forgetting.) -/
theorem set_env_restarts_carry (c : Carry O) (r : Bool) (obs : Nat → O) :
    setupLearn (none : Option (Carry O)) r obs = fresh obs ∧
    setupLearn (none : Option (Carry O)) r obs = setupLearn (some c) true obs ∧
    (∀ e, (setupLearn (none : Option (Carry O)) r obs).lastStarts e = true) :=
  ⟨rfl, rfl, fun _ => rfl⟩

/-- **State carry, all histories.** Take any sequence of `learn()` calls that do not reset the environment
and rollouts (of any lengths, each with its own policy). The (observation, episode-start) pairs stored in
the buffer rows, read one after the other across all rollouts, are the initial state followed by what each
environment step returned — shifted by one step, nothing skipped, nothing repeated, however the steps are
cut into rollouts and `learn()` calls. -/
theorem state_carry (γ : α) (f : A → A) (c : Carry O) (ops : List (Op O A α)) (h : noReset ops = true) :
    (allRows (runOps γ f c ops)).map rowCarry =
      (c :: (allSteps ops).map carryOf).take (allSteps ops).length := by
  induction ops generalizing c with
  | nil => rfl
  | cons op ops ih =>
    cases op with
    | learn r obs =>
      cases r with
      | true => cases h
      | false => exact ih c h
    | rollout V xs =>
      show ((collectRollout γ V f c xs).rows ++ allRows (runOps γ f (collectRollout γ V f c xs).carry ops)).map
        rowCarry = _
      rw [List.map_append, ih _ h, Lemmas.rows_rowCarry, rollout_carry]
      exact (Lemmas.take_map_append carryOf c xs (allSteps ops)).symm

/-- The state after any such history is what the very last environment step returned. -/
theorem carry_after_ops (γ : α) (f : A → A) (c : Carry O) (ops : List (Op O A α)) (h : noReset ops = true) :
    carryAfterOps γ f c ops = ((allSteps ops).getLast?.map carryOf).getD c := by
  induction ops generalizing c with
  | nil => rfl
  | cons op ops ih =>
    cases op with
    | learn r obs =>
      cases r with
      | true => cases h
      | false => exact ih c h
    | rollout V xs =>
      refine (ih _ h).trans ?_
      show _ = ((xs ++ allSteps ops).getLast?.map carryOf).getD c
      rw [rollout_carry, List.getLast?_append]
      cases (allSteps ops).getLast? <;> rfl

/-- `learn(reset_num_timesteps=False)` on an initialised algorithm does not touch the carried state:
the next rollout continues the running episodes. -/
theorem learn_without_reset_continues (γ : α) (f : A → A) (c : Carry O) (obs : ℕ → O) (ops : List (Op O A α)) :
    runOps γ f c (.learn false obs :: ops) = runOps γ f c ops := rfl

/-- A resetting `learn()` forgets the past: what follows starts from the reset observation with every
episode-start flag set, whatever happened before. -/
theorem reset_forgets (γ : α) (f : A → A) (c : Carry O) (obs : ℕ → O) (ops₁ ops₂ : List (Op O A α)) :
    runOps γ f c (ops₁ ++ .learn true obs :: ops₂) = runOps γ f c ops₁ ++ runOps γ f (fresh obs) ops₂ := by
  induction ops₁ generalizing c with
  | nil => rfl
  | cons op ops ih =>
    cases op with
    | learn r o => exact ih _
    | rollout V xs => exact congrArg (_ :: ·) (ih _)

/-- The first `learn()` of a new algorithm (`_last_obs is None`) resets whatever `reset_num_timesteps` says. -/
theorem first_learn_resets (r : Bool) (obs : ℕ → O) (e : ℕ) :
    (setupLearn (none : Option (Carry O)) r obs).lastObs e = obs e ∧
      (setupLearn (none : Option (Carry O)) r obs).lastStarts e = true :=
  ⟨rfl, rfl⟩

/-- **One long rollout = two consecutive ones** (same policy): cutting a rollout anywhere changes no slot. -/
theorem rollout_split (γ : α) (V : O → α) (f : A → A) (c : Carry O) (xs ys : List (StepIn O A α)) :
    (collectRollout γ V f c (xs ++ ys)).rows =
      (collectRollout γ V f c xs).rows ++
        (collectRollout γ V f (collectRollout γ V f c xs).carry ys).rows := by
  induction xs generalizing c with
  | nil => rfl
  | cons x xs ih => exact congrArg (slotOf γ V c x :: ·) (ih (carryOf x))

/-- **Environments do not influence each other**: slot `(t, e)` and the action environment `e` receives depend
only on component `e` of the carried state, of the actor samples and of the environment outputs. -/
theorem env_independent (γ : α) (V : O → α) (f : A → A) (c c' : Carry O) (xs ys : List (StepIn O A α)) (e : ℕ)
    (hc : c.lastObs e = c'.lastObs e ∧ c.lastStarts e = c'.lastStarts e)
    (h : List.Forall₂ (fun x y => x.sample e = y.sample e ∧ x.out e = y.out e) xs ys) :
    (collectRollout γ V f c xs).rows.map (fun row => row e) =
        (collectRollout γ V f c' ys).rows.map (fun row => row e) ∧
      (collectRollout γ V f c xs).envActs.map (fun a => a e) =
        (collectRollout γ V f c' ys).envActs.map (fun a => a e) := by
  induction h generalizing c c' with
  | nil => exact ⟨rfl, rfl⟩
  | @cons x y xs ys hxy _ ih =>
    obtain ⟨ih₁, ih₂⟩ := ih (carryOf x) (carryOf y) ⟨congrArg VOut.obs hxy.2, congrArg VOut.done hxy.2⟩
    have hs : slotOf γ V c x e = slotOf γ V c' y e := by rw [slotOf, slotOf, hc.1, hc.2, hxy.1, hxy.2]
    exact ⟨congrArg₂ List.cons hs ih₁, congrArg₂ List.cons (congrArg (fun s => f s.action) hxy.1) ih₂⟩

end collection

/-! ### Hand-over to GAE (composition with the C05 model) -/

section gae
variable {O A α : Type} [CommRing α]

/-- **The rollout is bootstrapped with the successor of its last step.** Feeding the collected buffer and
`lastValues` / `lastDones` to the GAE loop of C05, the advantage of the last step of environment `e` is
`r′ + γ · V(observation after the last step) · (1 − done) − V(observation of the last step)`, for every
rollout length, every `λ`, every history — `r′` being the (possibly time-limit bootstrapped) stored reward.
(All earlier advantages then follow from C05's closed form.) -/
theorem last_step_advantage (γ lam : α) (V : O → α) (f : A → A) (c : Carry O)
    (init : List (StepIn O A α)) (x : StepIn O A α) (e : ℕ) :
    (advantagesOf γ lam (collectRollout γ V f c (init ++ [x])) e).getLast? =
      some (rewardOf γ V (x.out e) + γ * V ((x.out e).obs) * (1 - boolS (x.out e).done)
            - V (((init.getLast?.map carryOf).getD c).lastObs e)) := by
  have hl := last_values_from_successor γ V f c (init ++ [x]) x List.getLast?_concat e
  unfold advantagesOf
  rw [hl.1, hl.2, rollout_split γ V f c init [x], gaeSteps, List.map_append, rollout_carry]
  exact Lemmas.gaeCol_snoc_getLast γ lam _ _ _ _

/-- **End to end: the advantages `collect_rollouts` leaves in the buffer are GAE of what happened.**
For every environment `e`, rollout length `T = xs.length`, step `t`, `γ`, `λ`, episode script and policy / critic
stream, the advantage computed from the collected buffer (C05's backward loop on the stored rewards, values,
episode starts, with `last_values` / `dones`) is C05's closed form written on the *externals*:
`Σ_{l < T-t} (γλ)^l · Π_{j<l} (1 − done_{t+j}) · δ_{t+l}` with
`δ_k = r′_k + γ · V(observation returned by step k) · (1 − done_k) − V(observation the policy saw at step k)`,
`r′_k` = environment reward `+ γ·V(terminal observation)` exactly on time-limit truncation (`tdAt`, `rewardOf`),
`done_k` the previous-done flags that became the episode starts, and the last step bootstrapped with the
value of its successor observation times `(1 − last done)`. -/
theorem advantages_are_gae_of_collected_rollout (γ lam : α) (V : O → α) (f : A → A) (c : Carry O)
    (xs : List (StepIn O A α)) (e t : ℕ) :
    (advantagesOf γ lam (collectRollout γ V f c xs) e).getD t 0 =
      ∑ l ∈ Finset.range (xs.length - t),
        (γ * lam) ^ l * (∏ j ∈ Finset.range l, (1 - boolS (doneAt xs e (t + j)))) * tdAt γ V c xs e (t + l) := by
  unfold advantagesOf
  rw [SB3Verif.Lemmas.gaeCol_getD_closed, Lemmas.steps_length]
  refine Finset.sum_congr rfl fun l hl => ?_
  rw [Lemmas.deltaAt_collected, Finset.prod_congr rfl fun j hj => Lemmas.nntAt_collected γ V f c xs e (t + j)
    (Nat.add_lt_of_lt_sub' ((Finset.mem_range.mp hj).trans (Finset.mem_range.mp hl)))]

/-- … and the returns are those advantages plus the value of the observation the policy saw. -/
theorem returns_are_advantage_plus_value (γ lam : α) (V : O → α) (f : A → A) (c : Carry O)
    (xs : List (StepIn O A α)) (e t : ℕ) (p : Carry O) (ht : t < xs.length)
    (hp : (c :: xs.map carryOf)[t]? = some p) :
    (returnsOf γ lam (collectRollout γ V f c xs) e).getD t 0 =
      (advantagesOf γ lam (collectRollout γ V f c xs) e).getD t 0 + V (p.lastObs e) := by
  have hlen : t < (advantagesOf γ lam (collectRollout γ V f c xs) e).length := by
    unfold advantagesOf
    rw [SB3Verif.Lemmas.gaeCol_length, Lemmas.steps_length]; exact ht
  rw [returnsOf, SB3Verif.Rollout.returnsCol, List.getD_eq_getElem?_getD, List.getElem?_zipWith, gaeSteps,
    List.getElem?_map, Lemmas.collectRollout_rows, List.getElem?_zipWith, hp, List.getElem?_eq_getElem ht,
    List.getD_eq_getElem?_getD, List.getElem?_eq_getElem hlen]
  rfl

/-- **Inside one episode** (`s ≤ t`, no episode end in `[s, t)`, episode ends at step `t`): the sum runs through
the end of the episode with full weights and stops there — nothing of the next episode leaks in. -/
theorem advantage_within_episode (γ lam : α) (V : O → α) (f : A → A) (c : Carry O) (xs : List (StepIn O A α))
    (e s t : ℕ) (hst : s ≤ t) (ht : t < xs.length) (hrun : ∀ j, s ≤ j → j < t → doneAt xs e j = false)
    (hend : doneAt xs e t = true) :
    (advantagesOf γ lam (collectRollout γ V f c xs) e).getD s 0 =
      ∑ l ∈ Finset.range (t - s + 1), (γ * lam) ^ l * tdAt γ V c xs e (s + l) := by
  rw [advantages_are_gae_of_collected_rollout]
  refine SB3Verif.Lemmas.sum_pow_prod_cut _ (fun j => 1 - boolS (doneAt xs e (s + j)))
    (fun l => tdAt γ V c xs e (s + l)) (t - s) _ (Nat.sub_lt_sub_right hst ht) (fun j hj => ?_) ?_
  · rw [hrun (s + j) (Nat.le_add_right s j) (Nat.add_lt_of_lt_sub' hj)]; exact sub_zero 1
  · rw [Nat.add_sub_cancel' hst, hend]; exact sub_self 1

/-- TD residual of a step cut by the time limit (not terminated): `r + γ·V(terminal observation) − V(obs)`;
the first observation of the next episode does not enter. -/
theorem td_residual_truncated (γ : α) (V : O → α) (c : Carry O) (xs : List (StepIn O A α)) (e t : ℕ)
    (p : Carry O) (x : StepIn O A α) (r : Raw O α)
    (hp : (c :: xs.map carryOf)[t]? = some p) (hx : xs[t]? = some x) (hr : x.out e = vecOut r)
    (h₁ : r.truncated = true) (h₂ : r.terminated = false) :
    tdAt γ V c xs e t = r.reward + γ * V r.obs - V (p.lastObs e) := by
  have hd : (x.out e).done = true := by rw [hr]; exact (congrArg (r.terminated || ·) h₁).trans (Bool.or_true _)
  rw [Lemmas.tdAt_of_done γ V c xs e t p x hp hx hd, hr, (reward_truncated γ V r h₁ h₂).1]

/-- TD residual of a terminated step (truncated at the same time or not): `r − V(obs)`, no bootstrap at all. -/
theorem td_residual_terminated (γ : α) (V : O → α) (c : Carry O) (xs : List (StepIn O A α)) (e t : ℕ)
    (p : Carry O) (x : StepIn O A α) (r : Raw O α)
    (hp : (c :: xs.map carryOf)[t]? = some p) (hx : xs[t]? = some x) (hr : x.out e = vecOut r)
    (h : r.terminated = true) :
    tdAt γ V c xs e t = r.reward - V (p.lastObs e) := by
  have hd : (x.out e).done = true := by rw [hr]; exact congrArg (· || r.truncated) h
  rw [Lemmas.tdAt_of_done γ V c xs e t p x hp hx hd, hr, reward_terminated γ V r h]

/-- **A truncation is bootstrapped, not cut.** If the episode of environment `e` is truncated (not terminated)
at step `t`, the advantage of step `t` is `r_t + γ·V(terminal observation) − V(obs_t)`, and for every earlier step
`s` of the same episode the GAE sum continues through that bootstrapped residual with weight `(γλ)^{t-s}` (and
ends there). -/
theorem truncation_is_bootstrapped_not_cut (γ lam : α) (V : O → α) (f : A → A) (c : Carry O)
    (xs : List (StepIn O A α)) (e s t : ℕ) (p : Carry O) (x : StepIn O A α) (r : Raw O α)
    (hp : (c :: xs.map carryOf)[t]? = some p) (hx : xs[t]? = some x) (hr : x.out e = vecOut r)
    (h₁ : r.truncated = true) (h₂ : r.terminated = false)
    (hst : s ≤ t) (hrun : ∀ j, s ≤ j → j < t → doneAt xs e j = false) :
    (advantagesOf γ lam (collectRollout γ V f c xs) e).getD t 0 = r.reward + γ * V r.obs - V (p.lastObs e) ∧
    (advantagesOf γ lam (collectRollout γ V f c xs) e).getD s 0 =
      (∑ l ∈ Finset.range (t - s), (γ * lam) ^ l * tdAt γ V c xs e (s + l)) +
        (γ * lam) ^ (t - s) * (r.reward + γ * V r.obs - V (p.lastObs e)) := by
  have ht : t < xs.length := (List.getElem?_eq_some_iff.mp hx).1
  have hend : doneAt xs e t = true := by
    rw [Lemmas.doneAt_of_getElem? xs e t x hx, hr]; exact (congrArg (r.terminated || ·) h₁).trans (Bool.or_true _)
  have htd := td_residual_truncated γ V c xs e t p x r hp hx hr h₁ h₂
  constructor
  · rw [advantage_within_episode γ lam V f c xs e t t le_rfl ht (fun j h1 h2 => absurd h2 (Nat.not_lt.2 h1)) hend,
      Nat.sub_self, Finset.sum_range_one, pow_zero, one_mul, Nat.add_zero, htd]
  · rw [advantage_within_episode γ lam V f c xs e s t hst ht hrun hend, Finset.sum_range_succ,
      Nat.add_sub_cancel' hst, htd]

end gae

section actions
-- the ordered-field structure is in scope of every statement of this section; only the `unscale` ones use all of it
set_option linter.unusedSectionVars false
variable {α : Type} [Field α] [LinearOrder α] [IsStrictOrderedRing α]

/-- **The environment receives an action inside its bounds** — clipped (unsquashed Gaussian policies) or
unscaled from `[-1, 1]` (squashed policies) — for every sampled value. -/
theorem env_receives_clipped (k : ActKind) (hk : k ≠ .ident) (half a lo hi : α) (h : lo ≤ hi) :
    lo ≤ envScalar k half a lo hi ∧ envScalar k half a lo hi ≤ hi := by
  cases k with
  | clip => exact Lemmas.clip_mem a lo hi h
  | unscale => exact Lemmas.clip_mem _ lo hi h
  | ident => exact absurd rfl hk

/-- Clipping leaves an action that is already inside the bounds untouched, and saturates otherwise. -/
theorem clip_cases (half a lo hi : α) (h : lo ≤ hi) :
    envScalar .clip half a lo hi = if a < lo then lo else if hi < a then hi else a := by
  show min (max a lo) hi = _
  split_ifs with h1 h2
  · exact Lemmas.Interval.min_max_of_le h h1.le
  · exact Lemmas.Interval.min_max_of_ge h2.le
  · exact Lemmas.Interval.min_max_of_mem (not_lt.1 h1) (not_lt.1 h2)

/-- Unsquashing is the affine map `[-1, 1] → [lo, hi]` (the clip of the rounding fix is the identity in
exact arithmetic). -/
theorem unscale_affine (a lo hi : α) (h : lo ≤ hi) (h1 : -1 ≤ a) (h2 : a ≤ 1) :
    envScalar .unscale (2⁻¹ : α) a lo hi = lo + (a + 1) / 2 * (hi - lo) := by
  have m := Lemmas.Interval.unscale_mem h h1 h2
  rw [Lemmas.envScalar_unscale, Lemmas.Interval.min_max_of_mem m.1 m.2]

/-- In particular `-1 ↦ lo` and `1 ↦ hi`. -/
theorem unscale_endpoints (lo hi : α) (h : lo ≤ hi) :
    envScalar .unscale (2⁻¹ : α) (-1) lo hi = lo ∧ envScalar .unscale (2⁻¹ : α) 1 lo hi = hi := by
  rw [Lemmas.envScalar_unscale, Lemmas.envScalar_unscale, Lemmas.Interval.unscale_neg_one, Lemmas.Interval.unscale_one]
  exact ⟨Lemmas.Interval.min_max_of_le h le_rfl, Lemmas.Interval.min_max_of_ge le_rfl⟩

/-- Component `i` of the vector handed to `env.step` is the scalar map applied to component `i` of the
sampled action with the `i`-th bounds. -/
theorem envAction_component (k : ActKind) (hk : k ≠ .ident) (half : α) (lo hi a : List α) (i : ℕ)
    (x l u : α) (hx : a[i]? = some x) (hl : lo[i]? = some l) (hu : hi[i]? = some u) :
    (envAction k half lo hi a)[i]? = some (envScalar k half x l u) := by
  have hz : (lo.zip hi)[i]? = some (l, u) := List.getElem?_zip_eq_some.mpr ⟨hl, hu⟩
  have he : envAction k half lo hi a =
      List.zipWith (fun x (b : α × α) => envScalar k half x b.1 b.2) a (lo.zip hi) := by
    cases k with
    | ident => exact absurd rfl hk
    | clip => rfl
    | unscale => rfl
  rw [he, List.getElem?_zipWith, hx, hz]

/-- Non-Box action spaces: the environment receives the sampled action itself. -/
theorem envAction_ident (half : α) (lo hi a : List α) : envAction .ident half lo hi a = a := rfl

/-- Which map applies: Box ∧ squashed → unscale; Box ∧ ¬squashed → clip; otherwise identity. -/
theorem actKind_cases : actKind true true = .unscale ∧ actKind true false = .clip ∧
    ∀ s, actKind false s = .ident :=
  ⟨rfl, rfl, fun _ => rfl⟩

end actions

/-! ### Non-vacuity: the hypotheses above are met by concrete, non-trivial data -/

section examples

/-- two environments; observations are tags, actions and scalars integers -/
def exOut (o : ℕ) (r : ℤ) (term trunc : Bool) (reset : ℕ) : VOut ℕ ℤ := vecOut ⟨o, r, term, trunc, reset, none, false⟩

/-- step 0: env 0 truncated (obs 11 → reset 20), env 1 runs on (obs 111) -/
def exStep0 : StepIn ℕ ℤ ℤ :=
  { sample := fun e => ⟨5 + e, -1⟩, out := fun e => if e = 0 then exOut 11 3 false true 20 else exOut 111 4 false false 0 }

/-- step 1: env 0 runs on (obs 21), env 1 terminated and truncated at once (obs 112 → reset 120) -/
def exStep1 : StepIn ℕ ℤ ℤ :=
  { sample := fun e => ⟨7 + e, -2⟩, out := fun e => if e = 0 then exOut 21 1 false false 0 else exOut 112 2 true true 120 }

def exV (o : ℕ) : ℤ := 2 * o
def exCarry : Carry ℕ := fresh (fun e => 10 + 100 * e)

example : ((exCarry :: [exStep0, exStep1].map carryOf)[1]? ).isSome ∧ ([exStep0, exStep1][1]?).isSome := by decide

/-- slot (0, 0): carried obs 10, start, value 20, truncation bootstrapped with γ·V(11) = 3·22 -/
example : ((collectRollout (3 : ℤ) exV id exCarry [exStep0, exStep1]).rows[0]?).map (fun row => row 0) =
    some ⟨10, 5, 3 + 3 * 22, true, 20, -1⟩ := by decide

/-- slot (1, 0): observation after the reset (20), start = previous done = true -/
example : ((collectRollout (3 : ℤ) exV id exCarry [exStep0, exStep1]).rows[1]?).map (fun row => row 0) =
    some ⟨20, 7, 1, true, 40, -2⟩ := by decide

/-- slot (1, 1): terminated ∧ truncated is *not* bootstrapped; start = previous done = false -/
example : ((collectRollout (3 : ℤ) exV id exCarry [exStep0, exStep1]).rows[1]?).map (fun row => row 1) =
    some ⟨111, 8, 2, false, 222, -2⟩ := by decide

/-- last values: V of the successor observations (21 and the reset observation 120), dones of the last step -/
example : (collectRollout (3 : ℤ) exV id exCarry [exStep0, exStep1]).lastValues 0 = 42 ∧
    (collectRollout (3 : ℤ) exV id exCarry [exStep0, exStep1]).lastValues 1 = 240 ∧
    (collectRollout (3 : ℤ) exV id exCarry [exStep0, exStep1]).lastDones 1 = true := by decide

/-- advantages of env 0 with λ = 1: last step 1 + 3·42·(1−0) − 40 = 87; first step 69 + 3·40·(1−1) − 20 + 3·1·0·87 = 49 -/
example : advantagesOf (3 : ℤ) 1 (collectRollout (3 : ℤ) exV id exCarry [exStep0, exStep1]) 0 = [49, 87] := by decide

example : List.Forall₂ (fun (x y : StepIn ℕ ℤ ℤ) => x.sample 0 = y.sample 0 ∧ x.out 0 = y.out 0) [exStep0] [exStep0] :=
  List.Forall₂.cons ⟨rfl, rfl⟩ List.Forall₂.nil

example : noReset ([.rollout exV [exStep0], .learn false (fun _ => 0), .rollout exV [exStep1]] : List (Op ℕ ℤ ℤ)) = true := by
  decide

/-! a 3-step, 2-environment rollout: env 0 is truncated at step 0, runs on, and is truncated again exactly on
the rollout boundary (step 2); env 1 runs, terminates at step 1, and is still running at the end -/

def exA : StepIn ℕ ℤ ℤ :=
  { sample := fun e => ⟨5 + e, -1⟩, out := fun e => if e = 0 then exOut 11 3 false true 20 else exOut 111 4 false false 0 }
def exB : StepIn ℕ ℤ ℤ :=
  { sample := fun e => ⟨7 + e, -2⟩, out := fun e => if e = 0 then exOut 21 1 false false 0 else exOut 112 2 true false 120 }
def exC : StepIn ℕ ℤ ℤ :=
  { sample := fun e => ⟨9 + e, -3⟩, out := fun e => if e = 0 then exOut 22 5 false true 30 else exOut 121 1 false false 0 }

/-- env 0 (γ = 3, λ = 1): step 0 = 3 + 3·V(11) − V(10) = 49 (bootstrapped, then cut); step 2 = 5 + 3·V(22) − V(21) = 95
(boundary truncation); step 1 = (1 + 3·V(21) − V(20)) + 3·95 = 372 continues through the bootstrapped residual -/
example : advantagesOf (3 : ℤ) 1 (collectRollout (3 : ℤ) exV id exCarry [exA, exB, exC]) 0 = [49, 372, 95] := by decide

/-- env 1: termination at step 1 is cut without bootstrap (2 − V(111) = −220); the unfinished last step is
bootstrapped with the successor: 1 + 3·V(121) − V(120) = 487 -/
example : advantagesOf (3 : ℤ) 1 (collectRollout (3 : ℤ) exV id exCarry [exA, exB, exC]) 1 = [-210, -220, 487] := by
  decide

example : returnsOf (3 : ℤ) 1 (collectRollout (3 : ℤ) exV id exCarry [exA, exB, exC]) 0 = [69, 412, 137] := by decide

/-- the hypotheses of `truncation_is_bootstrapped_not_cut` at `s = 1`, `t = 2`, `e = 0` -/
example : doneAt [exA, exB, exC] 0 1 = false ∧ doneAt [exA, exB, exC] 0 2 = true ∧
    exC.out 0 = vecOut (⟨22, 5, false, true, 30, none, false⟩ : Raw ℕ ℤ) ∧
    (exCarry :: [exA, exB, exC].map carryOf)[2]?.isSome ∧ [exA, exB, exC][2]?.isSome := by
  refine ⟨by decide, by decide, rfl, by decide, by decide⟩

/-- the hypotheses of `td_residual_terminated` at `t = 1`, `e = 1` -/
example : exB.out 1 = vecOut (⟨112, 2, true, false, 120, none, false⟩ : Raw ℕ ℤ) ∧
    (List.range 3).map (tdAt (3 : ℤ) exV exCarry [exA, exB, exC] 1) = [450, -220, 487] := by
  refine ⟨rfl, by decide⟩

/-- a running step whose reused info dict still says "truncated, terminal observation 11": not bootstrapped -/
example : rewardOf (3 : ℤ) exV (vecOutLazy ⟨21, 1, false, false, 0, some 11, true⟩) = 1 ∧
    (vecOutLazy (⟨21, 1, false, false, 0, some 11, true⟩ : Raw ℕ ℤ)).timeLimit = true ∧
    (vecOutLazy (⟨21, 1, false, false, 0, some 11, true⟩ : Raw ℕ ℤ)).terminalObs = some 11 := by decide

example : (2 : ℚ)⁻¹ * 2 = 1 ∧ ((-2 : ℚ) ≤ 6) := ⟨by norm_num, by decide⟩

end examples

end SB3Verif.C06
