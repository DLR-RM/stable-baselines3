/-
Agreement between the two independently written models of the `learn` loop: `SB3Verif.Learn` (Model/Learn.lean, C12), a
reactive machine over the inputs `learn` / `env` with an event trace `Ev`, and `SB3Verif.Callback` (Model/Callback.lean,
C13), a small-step machine `LS.next` with a program counter that *calls* a callback handler and logs `(Call, answer)`.

How the input conventions are translated (`cbCfg`, `opsOf`, `projC` / `projE`) is said at the head of
`Props/C12C13.lean`. The stop answers fed to `Learn` are read off the other machine's own log, so the agreement holds
for EVERY handler. The proof is a simulation: `Inv` holds after set-up and is kept by `LS.next`.
-/
import SB3Verif.Lemmas.Learn
import SB3Verif.Lemmas.Callback

namespace SB3Verif.LearnCallback

open SB3Verif.Learn SB3Verif.LearnLemmas
open SB3Verif.Callback (Call Dones LS Pc RolloutKind)

def cbCfg (cfg : Learn.Cfg) (dones : Dones) : Callback.Cfg :=
  match cfg.kind with
  | .on c => { nEnvs := cfg.nEnvs, onPolicy := true, kind := .steps c.nSteps, dones := dones }
  | .off c =>
    { nEnvs := cfg.nEnvs, onPolicy := false,
      kind := (match c.unit with | .step => .steps c.freq | .episode => .episodes c.freq), dones := dones }

/-- rollout size parameter (`n_steps` / `train_freq.frequency`) -/
def rolloutParam (cfg : Learn.Cfg) : Nat :=
  match cfg.kind with
  | .on c => c.nSteps
  | .off c => c.freq

/-- callback-visible part of a `Callback` trace: the calls without `update_locals`, answers dropped -/
def projC (t : List (Call × Bool)) : List Call :=
  t.filterMap fun p => match p.1 with
    | .updateLocals _ => none
    | c => some c

/-- callback-visible part of a `Learn` trace -/
def projE (t : List Ev) : List Call :=
  t.filterMap fun e => match e with
    | .setup num _ => some (.trainingStart num)
    | .rolloutStart _ _ => some .rolloutStart
    | .step num _ => some (.step num)
    | .rolloutEnd _ _ _ => some .rolloutEnd
    | .finish _ _ => some .trainingEnd
    | .progress _ _ _ => none
    | .train _ _ _ _ _ => none

/-- the `Learn` inputs that correspond to the `step` calls of a `Callback` trace (`g` environment steps were made
before): stop flag = negated answer, episode ends = `dones` at the global step index -/
def opsOf (dones : Dones) : Nat → List (Call × Bool) → List Op
  | _, [] => []
  | g, (.step _, ok) :: t => .env (!ok) (dones (g + 1)) [] :: opsOf dones (g + 1) t
  | g, (.trainingStart _, _) :: t => opsOf dones g t
  | g, (.rolloutStart, _) :: t => opsOf dones g t
  | g, (.updateLocals _, _) :: t => opsOf dones g t
  | g, (.rolloutEnd, _) :: t => opsOf dones g t
  | g, (.trainingEnd, _) :: t => opsOf dones g t

theorem projC_append (a b : List (Call × Bool)) : projC (a ++ b) = projC a ++ projC b := by
  simp [projC, List.filterMap_append]

theorem projE_append (a b : List Ev) : projE (a ++ b) = projE a ++ projE b := by
  simp [projE, List.filterMap_append]

/-- the number of inputs made so far is the number of `step` calls of the trace: the global index continues there -/
theorem opsOf_append (dones : Dones) (g : Nat) (a b : List (Call × Bool)) :
    opsOf dones g (a ++ b) = opsOf dones g a ++ opsOf dones (g + (opsOf dones g a).length) b := by
  induction a generalizing g with
  | nil => rfl
  | cons x xs ih =>
    obtain ⟨c, ok⟩ := x
    cases c <;> simp only [List.cons_append, opsOf, ih, List.length_cons, Nat.add_assoc, Nat.add_comm 1]

theorem run_snoc (cfg : Learn.Cfg) (s : State) (a : List Op) (op : Op) :
    run cfg s (a ++ [op]) =
      ((step cfg (run cfg s a).1 op).1, (run cfg s a).2 ++ (step cfg (run cfg s a).1 op).2) := by
  rw [run_append, run_cons]; simp

theorem cbCfg_nEnvs (cfg : Learn.Cfg) (dones : Dones) : (cbCfg cfg dones).nEnvs = cfg.nEnvs := by
  unfold cbCfg; cases cfg.kind <;> rfl

theorem cbCfg_dones (cfg : Learn.Cfg) (dones : Dones) : (cbCfg cfg dones).dones = dones := by
  unfold cbCfg; cases cfg.kind <;> rfl

theorem more_zero (cfg : Learn.Cfg) (dones : Dones) (hsz : 0 < rolloutParam cfg) : (cbCfg cfg dones).kind.more 0 0 = true := by
  unfold cbCfg rolloutParam at *
  cases hk : cfg.kind with
  | on c => rw [hk] at hsz; simpa [RolloutKind.more] using hsz
  | off c =>
    rw [hk] at hsz
    cases hu : c.unit <;> simpa [RolloutKind.more, hu] using hsz

theorem more_eq (cfg : Learn.Cfg) (dones : Dones) (s : State) (d : Nat) (e : Nat)
    (he : ∀ c, cfg.kind = .off c → s.colEps = e) :
    (cbCfg cfg dones).kind.more (s.colSteps + 1) (e + d) = moreAfter cfg s d := by
  unfold cbCfg moreAfter
  cases hk : cfg.kind with
  | on c => simp [RolloutKind.more]
  | off c =>
    have := he c hk
    cases hu : c.unit <;> simp [RolloutKind.more, shouldCollectMore, hu, this]

/-! ### the simulation

`Learn` reacts to an input with everything up to the next environment step; the other machine makes the same calls
in several transitions. So between two `step` calls `Learn` is ahead: `pending` lists the calls it has already made
and the other machine has not, `stOK` says where `Learn` stands. Only the transition that makes the `step` call feeds
`Learn` an input; all others move a call from `pending` to the log. -/

/-- what both machines do at the `while` test with these clocks -/
def tailCalls (num total : Nat) : List Call := if num < total then [.rolloutStart] else [.trainingEnd]

/-- `Learn` has made the `while` test with these clocks (and, if it succeeded, has begun the next rollout) -/
def atHead (st : State) (num total : Nat) : Prop :=
  st.running = decide (num < total) ∧ (st.running = true → st.colSteps = 0 ∧ st.colEps = 0)

/-- what the other machine, at program point `pc` with clocks `num`, `total`, still calls before the next point where
both machines are in step -/
def pending (ccfg : Callback.Cfg) (num total : Nat) : Pc → List Call
  | .start => .trainingStart num :: tailCalls num total
  | .loopHead => tailCalls num total
  | .inRollout c e => if ccfg.kind.more c e then [] else .rolloutEnd :: tailCalls num total
  | .rolloutTail => .rolloutEnd :: tailCalls num total
  | .finish => [.trainingEnd]
  | .done => []

/-- `Learn` is at (or already past the silent part after) the other machine's program point -/
def stOK (cfg : Learn.Cfg) (ccfg : Callback.Cfg) (num total : Nat) (st : State) : Pc → Prop
  | .inRollout c e =>
    if ccfg.kind.more c e then st.running = true ∧ st.colSteps = c ∧ (∀ oc, cfg.kind = .off oc → st.colEps = e)
    else atHead st num total
  | .finish => st.running = false
  | .done => st.running = false
  | _ => atHead st num total

theorem projE_loopHead (s : State) :
    projE (loopHead s).2 = tailCalls s.num s.total ∧ (loopHead s).1.num = s.num ∧ (loopHead s).1.total = s.total ∧
      atHead (loopHead s).1 s.num s.total := by
  unfold tailCalls atHead
  rcases loopHead_cases s with ⟨h, hlt⟩ | ⟨h, hge⟩ <;> rw [h]
  · rw [if_pos hlt, decide_eq_true hlt]; exact ⟨rfl, rfl, rfl, rfl, fun _ => ⟨rfl, rfl⟩⟩
  · rw [if_neg (Nat.not_lt.mpr hge), decide_eq_false (Nat.not_lt.mpr hge)]; exact ⟨rfl, rfl, rfl, rfl, (nomatch ·)⟩

theorem projE_trainOff (n : Nat) (c : OffCfg) (s : State) : projE (trainOff n c s).2 = [] := by
  rcases trainOff_cases n c s with ⟨h, _⟩ | ⟨h, _⟩ <;> rw [h] <;> rfl

/-- One environment step of `Learn` in a running rollout, in the other machine's terms: the `step` call, then what
is pending at the program point the answer `ok` leads to. `e`: the other machine's episode count (`Learn` keeps
`colEps` only off-policy). -/
theorem env_sim (cfg : Learn.Cfg) (dones : Dones) (st : State) (ok : Bool) (d e : Nat) (k : List Bool)
    (hr : st.running = true) (he : ∀ oc, cfg.kind = .off oc → st.colEps = e) :
    projE (step cfg st (.env (!ok) d k)).2 =
        Call.step (st.num + cfg.nEnvs) :: pending (cbCfg cfg dones) (st.num + cfg.nEnvs) st.total
          (bif ok then .inRollout (st.colSteps + 1) (e + d) else .finish) ∧
      (step cfg st (.env (!ok) d k)).1.num = st.num + cfg.nEnvs ∧
      (step cfg st (.env (!ok) d k)).1.total = st.total ∧
      stOK cfg (cbCfg cfg dones) (st.num + cfg.nEnvs) st.total (step cfg st (.env (!ok) d k)).1
        (bif ok then .inRollout (st.colSteps + 1) (e + d) else .finish) := by
  rw [step_env _ _ _ _ _ hr]
  cases ok with
  | false => rw [Bool.not_false, envStep_stop]; exact ⟨rfl, rfl, rfl, rfl⟩
  | true =>
    simp only [Bool.not_true, cond_true, pending, stOK, more_eq cfg dones st d e he]
    cases hk : cfg.kind with
    | on c =>
      rw [moreAfter_on hk]
      by_cases hlt : st.colSteps + 1 < c.nSteps
      · rw [envStep_on_mid cfg c st d k hk hlt, if_pos (decide_eq_true hlt), if_pos (decide_eq_true hlt)]
        exact ⟨rfl, rfl, rfl, hr, rfl, fun _ hoc => nomatch hoc⟩
      · rw [envStep_on_end cfg c st d k hk hlt, if_neg (decide_eq_false hlt ▸ Bool.false_ne_true),
          if_neg (decide_eq_false hlt ▸ Bool.false_ne_true)]
        obtain ⟨h1, h2, h3, h4⟩ := projE_loopHead (trainOn cfg.nEnvs c (onEndState cfg st) k).1
        exact ⟨by rw [projE_append, h1]; rfl, h2, h3, h4⟩
    | off c =>
      rw [moreAfter_off hk]
      cases hmore : shouldCollectMore c (st.colSteps + 1) (st.colEps + d) with
      | true =>
        rw [envStep_off_mid cfg c st d k hk hmore, if_pos rfl, if_pos rfl]
        exact ⟨rfl, rfl, rfl, hr, rfl, fun oc hoc => congrArg (· + d) (he oc (hk.trans hoc))⟩
      | false =>
        rw [envStep_off_end cfg c st d k hk hmore, if_neg Bool.false_ne_true, if_neg Bool.false_ne_true]
        obtain ⟨h1, h2, h3, h4⟩ := projE_loopHead (trainOff cfg.nEnvs c (offStepState cfg st d)).1
        have hn : (trainOff cfg.nEnvs c (offStepState cfg st d)).1.num = st.num + cfg.nEnvs := by rw [trainOff_fst]; rfl
        have ht : (trainOff cfg.nEnvs c (offStepState cfg st d)).1.total = st.total := by rw [trainOff_fst]; rfl
        rw [hn, ht] at h1 h4
        exact ⟨by rw [projE_append, projE_append, h1, projE_trainOff]; rfl, h2.trans hn, h3.trans ht, h4⟩

/-- `R` (what `Learn` made of the inputs read off the log of `s`) and `s` are in step -/
structure Sim {σ : Type} (cfg : Learn.Cfg) (ccfg : Callback.Cfg) (R : State × List Ev) (s : LS σ) : Prop where
  calls : projC s.trace ++ pending ccfg s.num s.total s.pc = projE R.2
  num : R.1.num = s.num
  total : R.1.total = s.total
  st : stOK cfg ccfg s.num s.total R.1 s.pc

/-- `g_eq`: both machines give the next environment step the same global index -/
structure Inv {σ : Type} (cfg : Learn.Cfg) (dones : Dones) (st0 : State) (T : Nat) (r : Bool) (g0 : Nat) (s : LS σ) : Prop where
  g_eq : s.g = g0 + (opsOf dones g0 s.trace).length
  sim : Sim cfg (cbCfg cfg dones) (run cfg st0 (.learn T r :: opsOf dones g0 s.trace)) s

theorem inv_setup {σ : Type} (cfg : Learn.Cfg) (dones : Dones) (st0 : State) (h0 : st0.running = false) (T : Nat)
    (r : Bool) (g0 : Nat) (cb : σ) : Inv cfg dones st0 T r g0 (LS.setup st0.num g0 cb T r) := by
  refine ⟨rfl, ?_⟩
  show Sim cfg _ (run cfg st0 [.learn T r]) _
  simp only [run_cons, run_nil, List.append_nil, step_learn _ _ _ _ h0]
  obtain ⟨h1, h2, h3, h4⟩ := projE_loopHead (setupLearn st0 T r)
  exact ⟨congrArg (Call.trainingStart _ :: ·) h1.symm, h2, h3, h4⟩

section
variable {σ : Type} {cfg : Learn.Cfg} {dones : Dones} {st0 : State} {T : Nat} {r : Bool} {g0 : Nat}

/-- A transition that makes no `step` call (`tr'`: the calls it logs) gives `Learn` no input: the invariant is kept
when the logged calls are the head of what was pending and `Learn`'s position fits the new program point as well. -/
theorem inv_silent {s s' : LS σ} {pc pc' : Pc} (tr' : List (Call × Bool)) (inv : Inv cfg dones st0 T r g0 s)
    (hpc : s.pc = pc) (hpc' : s'.pc = pc') (htr : s'.trace = s.trace ++ tr') (hn : s'.num = s.num)
    (ht : s'.total = s.total) (hg : s'.g = s.g) (hops : ∀ g, opsOf dones g tr' = [])
    (hp : projC tr' ++ pending (cbCfg cfg dones) s.num s.total pc' = pending (cbCfg cfg dones) s.num s.total pc)
    (hst : ∀ st, stOK cfg (cbCfg cfg dones) s.num s.total st pc → stOK cfg (cbCfg cfg dones) s.num s.total st pc') :
    Inv cfg dones st0 T r g0 s' := by
  have e : opsOf dones g0 s'.trace = opsOf dones g0 s.trace := by rw [htr, opsOf_append, hops, List.append_nil]
  obtain ⟨hg0, hc, hn0, ht0, hs0⟩ := inv
  refine ⟨by rw [hg, e]; exact hg0, ?_⟩
  rw [e]
  refine ⟨?_, hn0.trans hn.symm, ht0.trans ht.symm, ?_⟩
  · rw [htr, hn, ht, hpc', projC_append, List.append_assoc, hp, ← hpc]; exact hc
  · rw [hn, ht, hpc']; exact hst _ (hpc ▸ hs0)

/-- The transition that makes the environment step: `Learn` gets the input `env (!ok) (dones (g + 1)) []`. -/
theorem inv_env {s : LS σ} {c e : Nat} (inv : Inv cfg dones st0 T r g0 s) (hpc : s.pc = .inRollout c e)
    (hm : (cbCfg cfg dones).kind.more c e = true) (b ok : Bool) (cb' : σ) :
    Inv cfg dones st0 T r g0
      { pc := bif ok then .inRollout (c + 1) (e + dones (s.g + 1)) else .finish, num := s.num + cfg.nEnvs,
        total := s.total, g := s.g + 1, cb := cb',
        trace := s.trace ++ [(.updateLocals (s.g + 1), b), (.step (s.num + cfg.nEnvs), ok)] } := by
  obtain ⟨hg, hc, hn, ht, hst⟩ := inv
  rw [hpc] at hc hst
  simp only [pending, stOK, hm, if_true, List.append_nil] at hc hst
  have hops : opsOf dones g0 (s.trace ++ [(Call.updateLocals (s.g + 1), b), (.step (s.num + cfg.nEnvs), ok)]) =
      opsOf dones g0 s.trace ++ [.env (!ok) (dones (s.g + 1)) []] := by rw [opsOf_append, hg]; rfl
  refine ⟨by rw [hops, List.length_append, hg]; rfl, ?_⟩
  show Sim cfg _ (run cfg st0 (.learn T r :: opsOf dones g0 (s.trace ++ _))) _
  rw [hops, ← List.cons_append, run_snoc]
  generalize run cfg st0 (.learn T r :: opsOf dones g0 s.trace) = R at hc hn ht hst
  obtain ⟨p1, p2, p3, p4⟩ := env_sim cfg dones R.1 ok (dones (s.g + 1)) e [] hst.1 hst.2.2
  rw [hn, ht, hst.2.1] at p1 p4
  exact ⟨by rw [projC_append, projE_append, ← hc, p1, List.append_assoc]; rfl, p2.trans (by rw [hn]), p3.trans ht, p4⟩

theorem inv_next (hsz : 0 < rolloutParam cfg) (h : σ → Call → σ × Bool) (s : LS σ)
    (inv : Inv cfg dones st0 T r g0 s) : Inv cfg dones st0 T r g0 (s.next (cbCfg cfg dones) h) := by
  cases hpc : s.pc with
  | start =>
    simp only [LS.next, hpc]
    exact inv_silent [(.trainingStart s.num, _)] inv hpc rfl rfl rfl rfl rfl (fun _ => rfl) rfl (fun _ => id)
  | loopHead =>
    simp only [LS.next, hpc]
    split
    · rename_i hlt
      refine inv_silent [(.rolloutStart, _)] inv hpc rfl rfl rfl rfl rfl (fun _ => rfl) ?_ fun st hst => ?_
      · simp only [pending, more_zero cfg dones hsz, if_true, tailCalls, if_pos hlt]; rfl
      · have hr : st.running = true := hst.1.trans (decide_eq_true hlt)
        simp only [stOK, more_zero cfg dones hsz, if_true]
        exact ⟨hr, (hst.2 hr).1, fun _ _ => (hst.2 hr).2⟩
    · rename_i hlt
      exact inv_silent [] inv hpc rfl (List.append_nil _).symm rfl rfl rfl (fun _ => rfl) (if_neg hlt).symm
        fun st hst => hst.1.trans (decide_eq_false hlt)
  | inRollout c e =>
    cases hm : (cbCfg cfg dones).kind.more c e with
    | true =>
      have e := Callback.Lemmas.next_step (h := h) hpc hm
      simp only [cbCfg_nEnvs, cbCfg_dones] at e
      rw [e]
      exact inv_env inv hpc hm _ _ _
    | false =>
      rw [Callback.Lemmas.next_rolloutDone hpc hm]
      refine inv_silent [] inv hpc rfl (List.append_nil _).symm rfl rfl rfl (fun _ => rfl) ?_ fun st hst => ?_
      · simp only [pending, hm, Bool.false_eq_true, if_false]; rfl
      · simpa only [stOK, hm, Bool.false_eq_true, if_false] using hst
  | rolloutTail =>
    simp only [LS.next, hpc]
    cases (cbCfg cfg dones).onPolicy
    · exact inv_silent [(.rolloutEnd, _)] inv hpc rfl rfl rfl rfl rfl (fun _ => rfl) rfl (fun _ => id)
    · exact inv_silent [(.updateLocals s.g, _), (.rolloutEnd, _)] inv hpc rfl (List.append_assoc _ _ _) rfl rfl rfl
        (fun _ => rfl) rfl (fun _ => id)
  | finish =>
    simp only [LS.next, hpc]
    exact inv_silent [(.trainingEnd, _)] inv hpc rfl rfl rfl rfl rfl (fun _ => rfl) rfl (fun _ => id)
  | done => rw [Callback.Lemmas.next_done hpc]; exact inv

theorem inv_runN (hsz : 0 < rolloutParam cfg) (h : σ → Call → σ × Bool) (fuel : Nat) (s : LS σ)
    (inv : Inv cfg dones st0 T r g0 s) : Inv cfg dones st0 T r g0 (LS.runN (cbCfg cfg dones) h fuel s) := by
  induction fuel generalizing s with
  | zero => exact inv
  | succ n ih => exact ih _ (inv_next hsz h s inv)

end

/-- a `learn` call of the `Callback` machine -/
structure CallSpec where
  total : Nat
  reset : Bool
  fuel : Nat

/-- Agreement over a sequence of `learn` calls, each machine threading its OWN state: `Callback` continues from its
counter `n`, environment-step count `g` and callback state `cb`; `Learn` from its state `st`. For every call that the
`Callback` machine completes (`pc = done` within its fuel): the callback-visible traces coincide, `Learn` is idle
again, and both end the call with the same counter. -/
def SeqAgree {σ : Type} (cfg : Learn.Cfg) (dones : Dones) (h : σ → Call → σ × Bool) :
    State → Nat → Nat → σ → List CallSpec → Prop
  | _, _, _, _, [] => True
  | st, n, g, cb, c :: cs =>
    let s := LS.runN (cbCfg cfg dones) h c.fuel (LS.setup n g cb c.total c.reset)
    let R := run cfg st (.learn c.total c.reset :: opsOf dones g s.trace)
    s.pc = .done →
      (projC s.trace = projE R.2 ∧ R.1.running = false ∧ R.1.num = s.num) ∧
        SeqAgree cfg dones h R.1 s.num s.g s.cb cs

/-- when the other machine has completed the call nothing is pending: the callback-visible traces coincide -/
theorem Inv.agree {σ : Type} {cfg : Learn.Cfg} {dones : Dones} {st0 : State} {T : Nat} {r : Bool} {g0 : Nat} {s : LS σ}
    (inv : Inv cfg dones st0 T r g0 s) (hd : s.pc = .done) :
    projC s.trace = projE (run cfg st0 (.learn T r :: opsOf dones g0 s.trace)).2 ∧
      (run cfg st0 (.learn T r :: opsOf dones g0 s.trace)).1.running = false ∧
      (run cfg st0 (.learn T r :: opsOf dones g0 s.trace)).1.num = s.num ∧
      (run cfg st0 (.learn T r :: opsOf dones g0 s.trace)).1.total = s.total := by
  obtain ⟨hp, hn, ht, hst⟩ := inv.sim
  rw [hd] at hp hst
  exact ⟨(List.append_nil _).symm.trans hp, hst, hn, ht⟩

theorem seq_agree {σ : Type} (cfg : Learn.Cfg) (dones : Dones) (hsz : 0 < rolloutParam cfg) (h : σ → Call → σ × Bool)
    (cs : List CallSpec) (st : State) (n g : Nat) (cb : σ) (h0 : st.running = false) (hn : st.num = n) :
    SeqAgree cfg dones h st n g cb cs := by
  induction cs generalizing st n g cb with
  | nil => trivial
  | cons c cs ih =>
    subst hn
    intro hd
    obtain ⟨a1, a2, a3, _⟩ := (inv_runN hsz h c.fuel _ (inv_setup cfg dones st h0 c.total c.reset g cb)).agree hd
    exact ⟨⟨a1, a2, a3⟩, ih _ _ _ _ a2 a3⟩

/-- a minimal callback for the examples: counts its `on_step` calls (over all `learn` calls, like `n_calls`) and
answers `False` at the listed counts -/
def stopAt (stops : List Nat) : Nat → Call → Nat × Bool
  | k, .step _ => (k + 1, !(stops.contains (k + 1)))
  | k, _ => (k, true)

end SB3Verif.LearnCallback
