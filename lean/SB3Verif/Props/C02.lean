/-
C02 — SubprocVecEnv is observationally equivalent to DummyVecEnv under any timing.

Property theorems only (helper lemmas: `SB3Verif/Lemmas/Subproc.lean`). All statements are about the executable
model `SB3Verif/Model/Subproc.lean`, whose definitions the driver `SB3Verif/Driver/C02.lean` runs against the real
`SubprocVecEnv` and `DummyVecEnv`.

Quantifiers: every deterministic sub-environment semantics `E` (hence every space kind, every script), every number
of sub-environments (`envs : List σ`), every history `ops` of `seed / set_options / reset / step / get_attr / set_attr /
env_method / env_is_wrapped` with `None | int | list` index arguments (repetitions and any order allowed), and EVERY schedule
`sch : List (List Nat)` of worker transitions interleaved with the parent's sends and receives.

Finding F-C02-a (known, not fixed): `DummyVecEnv` returns rewards converted to `float32`, `SubprocVecEnv` returns
them as they are. The full statement "all observables equal" is therefore false
(`subproc_equiv_dummy_counterexample`); it holds with the rewards compared after the conversion
(`subproc_equiv_dummy_mod_cast`, no hypothesis) and literally when the rewards are `float32`-representable
(`subproc_equiv_dummy_partial`).
-/
import SB3Verif.Lemmas.Subproc

namespace SB3Verif.C02

open SB3Verif.Subproc

variable {σ α ω ρ : Type}

/-- **Processes share nothing**: a transition of worker `j` leaves the state, the inbox and the outbox of every
other worker `i ≠ j` unchanged. -/
theorem worker_isolated (E : EnvSem σ α ω ρ) (ps : List (Proc σ α ω ρ)) (i j : Nat) (h : j ≠ i) :
    (fire E ps j)[i]? = ps[i]? :=
  getElem?_upd_ne ps j i (Proc.fire E) h

/-- **FIFO determinism**: whatever worker transitions happen (any ids, any number, any order), for every worker the
replies still to be received — those already in its outbox followed by the answers to the commands still in its
inbox — and the state it will have once its inbox is worked off do not change. -/
theorem fifo_determinism (E : EnvSem σ α ω ρ) (ps : List (Proc σ α ω ρ)) (js : List Nat) (i : Nat) :
    ((fireAll E ps js)[i]?).map (fun p => (p.outbox ++ (runCmds E p.w p.inbox).2, (runCmds E p.w p.inbox).1)) =
      (ps[i]?).map (fun p => (p.outbox ++ (runCmds E p.w p.inbox).2, (runCmds E p.w p.inbox).1)) := by
  have h := congrArg (fun l => (l[i]?).map fun a => (a.2, a.1)) (views_fireAll E ps js)
  simp only [List.getElem?_map, Option.map_map] at h
  exact h

/-- **Schedule independence of a parent program**: under any two schedules a program of sends and receives either
dead-locks under both or returns the same replies in the same order and leaves every worker with the same pending
replies and the same eventual state. -/
theorem schedule_independent (E : EnvSem σ α ω ρ) (ps : List (Proc σ α ω ρ)) (sch1 sch2 : Sched)
    (prog : List (PAct α ω)) :
    (runProg E ps sch1 prog).map (fun x => (x.1.map (view E), x.2.2)) =
      (runProg E ps sch2 prog).map (fun x => (x.1.map (view E), x.2.2)) := by
  rw [runProg_refines, runProg_refines]

/-- **Main theorem, no hypothesis on the rewards**: for every environment semantics, every number of
sub-environments, every history of valid operations and EVERY schedule, `SubprocVecEnv` never blocks and every
operation returns what `DummyVecEnv` returns — observations, dones, infos, reset_infos, call results, seeds, in
sub-environment order — with `DummyVecEnv`'s rewards being the conversion (`cast`, float32) of `SubprocVecEnv`'s. -/
theorem subproc_equiv_dummy_mod_cast (E : EnvSem σ α ω ρ) (cast : ρ → ρ) (envs : List σ) (ops : List (Op α ω))
    (sch : Sched) (hv : ∀ op ∈ ops, op.valid envs.length) :
    ∃ s' sch' outs, Sys.runOps E (Sys.init envs) sch ops = some (s', sch', outs) ∧
      (Dummy.runOps E cast (Dummy.init envs) ops).2 = outs.map (Out.castRews cast) :=
  let ⟨s', sch', outs, h1, h2, _⟩ :=
    runOps_equiv E cast ops (Sys.init envs) (Dummy.init envs) sch (Rel.init E envs) hv
  ⟨s', sch', outs, h1, h2⟩

/-- **The property as stated, under the missing hypothesis** (F-C02-a): if every reward `SubprocVecEnv` returns is a
fixed point of the conversion (is float32-representable), all observables are equal under every schedule. -/
theorem subproc_equiv_dummy_partial (E : EnvSem σ α ω ρ) (cast : ρ → ρ) (envs : List σ) (ops : List (Op α ω))
    (sch : Sched) (hv : ∀ op ∈ ops, op.valid envs.length)
    (hrep : ∀ x, Sys.runOps E (Sys.init envs) sch ops = some x → ∀ o ∈ x.2.2, ∀ r ∈ o.rews, cast r = r) :
    (Sys.runOps E (Sys.init envs) sch ops).map (fun x => x.2.2) =
      some (Dummy.runOps E cast (Dummy.init envs) ops).2 := by
  obtain ⟨s', sch', outs, h1, h2⟩ := subproc_equiv_dummy_mod_cast E cast envs ops sch hv
  rw [h1, h2]
  refine congrArg some ((List.map_id outs).symm.trans (List.map_congr_left fun o ho => ?_))
  have : o.rews.map cast = o.rews := (List.map_congr_left (hrep _ h1 o ho)).trans (List.map_id _)
  unfold Out.castRews
  rw [this]
  rfl

/-- With the identity conversion (rewards kept as they are in both classes) the equality is unconditional. -/
theorem subproc_equiv_dummy_same_dtype (E : EnvSem σ α ω ρ) (envs : List σ) (ops : List (Op α ω))
    (sch : Sched) (hv : ∀ op ∈ ops, op.valid envs.length) :
    (Sys.runOps E (Sys.init envs) sch ops).map (fun x => x.2.2) =
      some (Dummy.runOps E id (Dummy.init envs) ops).2 :=
  subproc_equiv_dummy_partial E id envs ops sch hv (fun _ _ _ _ _ _ => rfl)

/-- one scripted sub-environment whose reward is `1/10` -/
def cexEnv : Scripted.St := { envId := 0, script := [((1 : Rat) / 10, false, false)] }

/-- **F-C02-a, the full statement is false**: with the real float32 conversion, one sub-environment whose reward is
`0.1`, `reset; step` under the empty schedule: `SubprocVecEnv` returns `1/10`, `DummyVecEnv` returns
`13421773/134217728`. -/
theorem subproc_equiv_dummy_counterexample :
    (Sys.runOps Scripted.sem (Sys.init [cexEnv]) [] [Op.reset, Op.step [0]]).map (fun x => x.2.2) ≠
      some (Dummy.runOps Scripted.sem roundF32 (Dummy.init [cexEnv]) [Op.reset, Op.step [0]]).2 := by
  decide +kernel

/-- **Index order, not completion order**: the outputs of a valid history do not depend on the schedule. -/
theorem index_order_not_completion_order (E : EnvSem σ α ω ρ) (envs : List σ) (ops : List (Op α ω))
    (sch1 sch2 : Sched) (hv : ∀ op ∈ ops, op.valid envs.length) :
    (Sys.runOps E (Sys.init envs) sch1 ops).map (fun x => x.2.2) =
      (Sys.runOps E (Sys.init envs) sch2 ops).map (fun x => x.2.2) := by
  rw [subproc_equiv_dummy_same_dtype E envs ops sch1 hv, subproc_equiv_dummy_same_dtype E envs ops sch2 hv]

/-- **No dead-lock**: every parent program of a valid history terminates under every schedule (all sends of an
operation precede its first receive, every command is answered exactly once). -/
theorem no_deadlock (E : EnvSem σ α ω ρ) (envs : List σ) (ops : List (Op α ω)) (sch : Sched)
    (hv : ∀ op ∈ ops, op.valid envs.length) : (Sys.runOps E (Sys.init envs) sch ops).isSome := by
  obtain ⟨s', sch', outs, h1, _⟩ := subproc_equiv_dummy_mod_cast E id envs ops sch hv
  rw [h1]
  rfl

/-- **After every history the pipes are empty and the workers hold Dummy's state**: every worker's environment is
`DummyVecEnv.envs[i]`, its local `reset_info` is `DummyVecEnv.reset_infos[i]`, and the parents' `reset_infos`,
`_seeds`, `_options` coincide. -/
theorem drained_states_equal (E : EnvSem σ α ω ρ) (cast : ρ → ρ) (envs : List σ) (ops : List (Op α ω))
    (sch : Sched) (hv : ∀ op ∈ ops, op.valid envs.length) :
    ∃ s' sch' outs, Sys.runOps E (Sys.init envs) sch ops = some (s', sch', outs) ∧
      (∀ p ∈ s'.procs, p.inbox = [] ∧ p.outbox = []) ∧
      s'.procs.map (fun p => p.w.env) = (Dummy.runOps E cast (Dummy.init envs) ops).1.envs ∧
      s'.procs.map (fun p => p.w.resetInfo) = (Dummy.runOps E cast (Dummy.init envs) ops).1.resetInfos ∧
      s'.resetInfos = (Dummy.runOps E cast (Dummy.init envs) ops).1.resetInfos ∧
      s'.seeds = (Dummy.runOps E cast (Dummy.init envs) ops).1.seeds ∧
      s'.options = (Dummy.runOps E cast (Dummy.init envs) ops).1.options := by
  obtain ⟨s', sch', outs, h1, _, R⟩ :=
    runOps_equiv E cast ops (Sys.init envs) (Dummy.init envs) sch (Rel.init E envs) hv
  obtain ⟨d1, d2⟩ := R.drained
  refine ⟨s', sch', outs, h1, d1, ?_, ?_, R.ri, R.seeds, R.options⟩
  · rw [← (Dummy.ws_unzip _ R.len).1, ← d2, List.map_map]; rfl
  · rw [← (Dummy.ws_unzip _ R.len).2, ← d2, List.map_map]; rfl

/-- **Index routing (1)**: an operation touches only the sub-environments `_get_indices` names — the environment
and the `reset_infos` entry of every other index are unchanged (stated for the sequential class; by
`drained_states_equal` the workers of `SubprocVecEnv` hold the same states). -/
theorem target_indices_untouched (E : EnvSem σ α ω ρ) (d : Dummy σ ω) (op : Op α ω) (j : Nat)
    (h : ∀ x ∈ plan d.envs.length d.seeds d.options op, x.1 ≠ j) :
    (Dummy.runOpRaw E d op).1.envs[j]? = d.envs[j]? ∧
    (Dummy.runOpRaw E d op).1.resetInfos[j]? = d.resetInfos[j]? := by
  unfold Dummy.runOpRaw
  rw [Dummy.post_envs, Dummy.post_resetInfos]
  exact Dummy.loop_untouched E (plan d.envs.length d.seeds d.options op) d j h

/-- **Index routing (2)**: `get_attr(name, indices)` on `SubprocVecEnv`, from any state in step with a `DummyVecEnv`
state `d` and under any schedule, returns the attribute of `envs[i]` for `i` running through `indices` in the given
order (repetitions included), for `indices = None | k | [k…]`. -/
theorem target_indices_results (E : EnvSem σ α ω ρ) (s : Sys σ α ω ρ) (d : Dummy σ ω) (sch : Sched)
    (name : String) (idx : Indices) (R : Rel E s d) (hv : ∀ i ∈ getIndices d.envs.length idx, i < d.envs.length) :
    ∃ s' sch' out, Sys.runOp E s sch (Op.getAttr name idx) = some (s', sch', out) ∧
      out.results.map some = (getIndices d.envs.length idx).map (fun i => d.envs[i]?.map (fun e => E.getAttr e name)) := by
  obtain ⟨s', sch', h1, _⟩ := runOp_equiv E s d sch (Op.getAttr name idx) R hv
  refine ⟨s', sch', _, h1, ?_⟩
  exact (Dummy.loop_getAttr E name (getIndices d.envs.length idx) d hv).2

/-- **`step_async` then `step_wait`**, stated for the program of any plan `pl` cut between its sends and its receives
(with any worker transitions in between): the sends alone never block and return nothing; the receives, continuing
with the pipes and the schedule they find, end where the undivided program ends — same pipes, same rest of the
schedule, same replies. -/
theorem step_async_wait_split (E : EnvSem σ α ω ρ) (ps : List (Proc σ α ω ρ)) (sch : Sched)
    (pl : List (Nat × Cmd α ω)) :
    ∃ ps1 sch1, runProg E ps sch (pl.map fun x => PAct.send x.1 x.2) = some (ps1, sch1, []) ∧
      runProg E ps sch (program pl) = runProg E ps1 sch1 (pl.map fun x => PAct.recv x.1) := by
  obtain ⟨ps1, sch1, (h : runProg E ps sch (pl.map fun x => PAct.send x.1 x.2) = _), _⟩ :=
    runProg_some E ps sch (sendsOf pl) _ _ (arunProg_sends_nil E _ pl)
  refine ⟨ps1, sch1, h, ?_⟩
  unfold program
  rw [runProg_append, h]
  simp only [Option.bind_some, List.nil_append]
  cases runProg E ps1 sch1 (pl.map fun x => PAct.recv x.1) <;> rfl

/-- **Slot `i` is sub-environment `i`**: from states in step and under any schedule, the replies from which
`SubprocVecEnv.step(actions)` assembles its return value are, position by position, the answer of worker `i`
(holding `envs[i]` and `reset_infos[i]`) to `actions[i]` — never another worker's, whatever the completion order. -/
theorem step_slotwise (E : EnvSem σ α ω ρ) (s : Sys σ α ω ρ) (d : Dummy σ ω) (sch : Sched) (acts : List α)
    (R : Rel E s d) (hv : acts.length = d.envs.length) :
    ∃ s' sch', Sys.runOp E s sch (Op.step acts) =
      some (s', sch',
        assemble (Op.step acts) d.envs.length
          (List.zipWith (fun w a => (Worker.react E w (Cmd.step a)).2) (Dummy.ws d) acts)
          ((List.zipWith (fun w a => (Worker.react E w (Cmd.step a)).1) (Dummy.ws d) acts).map
            (fun w => w.resetInfo))) := by
  obtain ⟨s', sch', h1, _⟩ := runOp_equiv E s d sch (Op.step acts) R hv
  refine ⟨s', sch', ?_⟩
  obtain ⟨hws, hrep⟩ := Dummy.loop_indexed E (acts.map (Cmd.step : α → Cmd α ω)) d R.len
    (by rw [List.length_map]; exact hv)
  have fr := Dummy.loop_frame E (indexedFrom 0 (acts.map (Cmd.step : α → Cmd α ω))) d
  rw [List.zipWith_map_right] at hws hrep
  rw [h1, ← hws, ← hrep, (Dummy.ws_unzip _ (fr.envs.trans (R.len.trans fr.resetInfos.symm))).2]
  rfl

/-- **Equivalence extended to the calls that leave state in the pipes**: for every history of calls inside the
protocol (`phaseAfter … = some _`: operations and `step_async` only when no step is outstanding, `step_wait` only after
`step_async`, `close` at any point — also while a step is outstanding — and nothing but `close` after `close`) and
every schedule, `SubprocVecEnv` never blocks and every call returns what `DummyVecEnv` returns (rewards after
`DummyVecEnv`'s float32 conversion, F-C02-a). -/
theorem subproc_equiv_dummy_calls (E : EnvSem σ α ω ρ) (cast : ρ → ρ) (envs : List σ) (cs : List (Call α ω))
    (sch : Sched) (p : Phase) (h : phaseAfter envs.length .idle cs = some p) :
    ∃ x' sch' outs, Sub.runAll E (Sub.init envs) sch cs = some (x', sch', outs) ∧
      (Dum.runAll E cast (Dum.init envs) cs).2 = outs.map (Out.castRews cast) :=
  let ⟨x', sch', outs, h1, h2, _⟩ :=
    runAll_equiv E cast envs.length cs .idle p (Sub.init envs) (Dum.init envs) sch (XRel.init E envs) h
  ⟨x', sch', outs, h1, h2⟩

/-- **`close` drains and terminates**: after any history inside the protocol that ends closed — `close` may have been
called while a step was outstanding — under every schedule the parent did not block, `closed` is set, no worker is left
with a command in its inbox or a reply in its outbox, and a further `close` is a no-op (same object, schedule
untouched, nothing sent). -/
theorem close_drains_and_terminates (E : EnvSem σ α ω ρ) (envs : List σ) (cs : List (Call α ω)) (sch : Sched)
    (h : phaseAfter envs.length .idle cs = some .closed) :
    ∃ x' sch' outs, Sub.runAll E (Sub.init envs) sch cs = some (x', sch', outs) ∧ x'.closed = true ∧
      (∀ p ∈ x'.sys.procs, p.inbox = [] ∧ p.outbox = []) ∧
      ∀ sch2, Sub.run E x' sch2 Call.close = some (x', sch2, { resetInfos := x'.sys.resetInfos }) := by
  obtain ⟨x', sch', outs, h1, _, hcl, _, ws, hws⟩ :=
    runAll_equiv E id envs.length cs .idle .closed (Sub.init envs) (Dum.init envs) sch (XRel.init E envs) h
  refine ⟨x', sch', outs, h1, hcl, (views_quiet E _ ws hws).1, ?_⟩
  intro sch2
  simp only [Sub.run, hcl, if_true]

/-- **The `waiting` flag**: after any history inside the protocol that has not closed the object, under every
schedule, `waiting` is set exactly when a `step_async` has been sent whose `step_wait` has not been called, and then
every worker owes exactly one reply (one command in its inbox or one reply in its outbox); otherwise all pipes are
empty. -/
theorem waiting_flag_inv (E : EnvSem σ α ω ρ) (envs : List σ) (cs : List (Call α ω)) (sch : Sched) (p : Phase)
    (h : phaseAfter envs.length .idle cs = some p) (hp : p ≠ .closed) :
    ∃ x' sch' outs, Sub.runAll E (Sub.init envs) sch cs = some (x', sch', outs) ∧ x'.closed = false ∧
      (x'.waiting = true ↔ p = .waiting) ∧
      ∀ q ∈ x'.sys.procs, q.inbox.length + q.outbox.length = if x'.waiting then 1 else 0 := by
  obtain ⟨x', sch', outs, h1, _, R⟩ :=
    runAll_equiv E id envs.length cs .idle p (Sub.init envs) (Dum.init envs) sch (XRel.init E envs) h
  refine ⟨x', sch', outs, h1, ?_⟩
  cases p with
  | closed => exact absurd rfl hp
  | idle =>
    obtain ⟨R0, hw, hcl, _⟩ := R
    refine ⟨hcl, by rw [hw]; exact ⟨nofun, nofun⟩, ?_⟩
    intro q hq
    obtain ⟨h2, h3⟩ := R0.drained.1 q hq
    rw [hw, h2, h3]
    rfl
  | waiting =>
    obtain ⟨P, hw, hcl, hn, han⟩ := R
    refine ⟨hcl, ⟨fun _ => rfl, fun _ => hw⟩, ?_⟩
    intro q hq
    rw [hw]
    exact waiting_pending_one E _ _ _ (han.trans hn.symm) P q hq

/-! ### the hypotheses are satisfiable by non-trivial data -/

/-- a three-environment history mixing every operation kind, with repeated and permuted indices -/
def exOps : List (Op Int Nat) :=
  [Op.seed 7, Op.setOptions (.dict [("a", 1)]), Op.reset, Op.step [0, 1, 2],
   Op.envMethod "add_to_attr" [2, 3] (.many [2, 0, 2]), Op.setAttr "n_steps" (.int 0) (.one 1),
   Op.getAttr "some_attr" .all, Op.step [3, 3, 3]]

def exEnvs : List Scripted.St :=
  [{ envId := 0, script := [(1, false, false), (2, true, false)] },
   { envId := 1, script := [((1 : Rat) / 2, false, true)] },
   { envId := 2, script := [(0, true, true), (3, false, false)] }]

example : ∀ op ∈ exOps, op.valid exEnvs.length := by decide

/-- the initial states are in step -/
example : Rel Scripted.sem (Sys.init exEnvs : Sys Scripted.St Int Nat Rat) (Dummy.init exEnvs) := Rel.init _ _

/-- the rewards of `exEnvs` are float32-representable: `hrep` of `subproc_equiv_dummy_partial` holds, here under
a schedule in which worker 2 always answers first and worker 0 last -/
example : ∀ x, Sys.runOps Scripted.sem (Sys.init exEnvs) [[2], [2, 1], [2, 1, 0, 0], [1, 2]] exOps = some x →
    ∀ o ∈ x.2.2, ∀ r ∈ o.rews, roundF32 r = r := by decide +kernel

/-- … and the run returns auto-reset observations (tag of episode 1 for worker 2) and the results of the repeated
index list `[2, 0, 2]` in that order -/
example : ((Sys.runOps Scripted.sem (Sys.init exEnvs) [[2], [2, 1], [2, 1, 0, 0], [1, 2]] exOps).map
    (fun x => x.2.2.map (fun o => (o.obs, o.dones, o.results)))) =
    some [([], [], []), ([], [], []), ([0, 131072, 262144], [], []),
          ([1, 131328, 262400], [false, true, true], []),
          ([], [], [.int 5, .int 5, .int 10]), ([], [], []), ([], [], [.int 5, .int 0, .int 10]),
          ([256, 131584, 262401], [true, true, false], [])] := by decide +kernel

/-- a history with a split step, a `close` while a step is outstanding and a second `close`: inside the protocol -/
def exCalls : List (Call Int Nat) :=
  [.op .reset, .stepAsync [0, 1, 2], .stepWait, .op (.isWrapped "PassThrough" (.many [2, 0])), .stepAsync [3, 3, 3],
   .close, .close]

example : phaseAfter exEnvs.length .idle exCalls = some .closed := by decide

example : phaseAfter exEnvs.length .idle (exCalls.take 5) = some .waiting := by decide

end SB3Verif.C02
