/-
Lemmas for C11 (model: `SB3Verif/Model/Predict.lean`): first shapes, then values.

Shapes. The four `is_vectorized_*_observation` functions are the Box one applied to `space.shape` (`isVectorized_eq`),
so one pair of equivalences says when the answer is `false` (the shape of the space) and `true` (one dimension in
front of it). The steps of `obs_to_tensor` are chains in `Except`; `leafToTensorAcc_eq_ok` and
`dictToTensor_cons_eq_ok` say that such a chain succeeds exactly when every step does, and are read from right to
left to compute on a well-shaped observation, from left to right to take a success apart (`leafIsVectorized_of`,
`dictIsVectorized_of`). `withBatch b os` is the observation of the space `os` with the batch dimension as a value,
`b : Option Nat`: `os.single` and `os.batched n` are `withBatch none os` and `withBatch (some n) os`, each `…_withBatch`
lemma serves both, and `predict_withBatch` returns `b.toList ++ as.shape`.

Values, by kind of action space. Box: `clip` and `unscale` are one equation away from an expression of
`Lemmas/Interval.lean` (`clip_eq`, `unscale_eq`); `unscale` has the clip inside, so `unscale_mem` holds of every `s`, and
the end points and the round trip ask for what keeps the clip idle. Discrete: `argmaxFrom_spec` is the invariant of the
scan, `argmax_oneHot` that it decodes a one-hot vector. Image layout: `srcHWC`, `srcCHW` give the position an entry of
the transposed image is read from, `divMod_mul_add` takes an index written in mixed radix apart, and
`transposeHWC_index` is `out[c, h, w] = in[h, w, c]`.
-/
import SB3Verif.Model.Predict
import SB3Verif.Lemmas.Interval
import Mathlib.Data.List.Basic
import Mathlib.Algebra.Order.Field.Basic

namespace SB3Verif.Lemmas.Predict

open SB3Verif.Predict

theorem cons_ne_self (n : Nat) (s : Shape) : n :: s ≠ s := List.cons_ne_self n s

/-- `isVecBox` has this form -/
theorem ifChain_false {p q : Prop} [Decidable p] [Decidable q] :
    (if p then .ok false else if q then .ok true else .error .shape : Except Err Bool) = .ok false ↔ p := by
  by_cases hp : p
  · simp [hp]
  · by_cases hq : q <;> simp [hp, hq]

theorem ifChain_true {p q : Prop} [Decidable p] [Decidable q] :
    (if p then .ok false else if q then .ok true else .error .shape : Except Err Bool) = .ok true ↔ ¬p ∧ q := by
  by_cases hp : p
  · simp [hp]
  · by_cases hq : q <;> simp [hp, hq]

theorem eq_cons_iff {obs s : Shape} : obs ≠ s ∧ obs.drop 1 = s ↔ ∃ n, obs = n :: s := by
  constructor
  · rintro ⟨hne, h⟩
    cases obs with
    | nil => exact absurd h hne
    | cons a t => exact ⟨a, congrArg _ h⟩
  · rintro ⟨n, rfl⟩
    exact ⟨cons_ne_self n s, rfl⟩

/-- all four `is_vectorized_*_observation` functions are the Box one on `space.shape` -/
theorem isVectorized_eq (l : Leaf) (obs : Shape) : isVectorized l obs = isVecBox obs l.shape := by
  cases l with
  | box s img => rfl
  | discrete k => match obs with
    | [] | [_] | _ :: _ :: _ => rfl
  | multiDiscrete nv =>
    refine if_ctx_congr Iff.rfl (fun _ => rfl) fun hne => if_congr ⟨fun h => ?_, fun h => ?_⟩ rfl rfl
    · obtain ⟨a, b, rfl⟩ := List.length_eq_two.1 h.1
      exact congrArg ([·]) h.2
    · obtain ⟨n, rfl⟩ := eq_cons_iff.1 ⟨hne, h⟩
      exact ⟨rfl, rfl⟩
  | multiBinary s =>
    refine if_ctx_congr Iff.rfl (fun _ => rfl) fun hne => if_congr ⟨And.right, fun h => ⟨?_, h⟩⟩ rfl rfl
    obtain ⟨n, rfl⟩ := eq_cons_iff.1 ⟨hne, h⟩
    rfl

theorem isVectorized_false_iff (l : Leaf) (obs : Shape) : isVectorized l obs = .ok false ↔ obs = l.shape :=
  isVectorized_eq l obs ▸ ifChain_false

theorem isVectorized_true_iff (l : Leaf) (obs : Shape) :
    isVectorized l obs = .ok true ↔ ∃ n, obs = n :: l.shape :=
  isVectorized_eq l obs ▸ ifChain_true.trans eq_cons_iff

theorem prod_pos_of_pos : ∀ (s : Shape), posShape s = true → 0 < prod s
  | [], _ => Nat.one_pos
  | d :: ds, h => by
    rw [posShape, List.all_cons, Bool.and_eq_true, decide_eq_true_eq] at h
    exact Nat.mul_pos h.1 (prod_pos_of_pos ds h.2)

theorem leaf_shape_pos (l : Leaf) (h : l.valid = true) : 0 < prod l.shape := by
  cases l with
  | discrete k => exact Nat.one_pos
  | multiDiscrete nv =>
    rw [Leaf.valid, Bool.and_eq_true, decide_eq_true_eq] at h
    exact Nat.mul_pos h.2 Nat.one_pos
  | _ => exact prod_pos_of_pos _ (Bool.and_eq_true _ _ ▸ h).1

theorem valid_chw (c h w : Nat) (hc : 0 < c) (hh : 0 < h) (hw : 0 < w) :
    (Leaf.box [c, h, w] true).valid = true := by
  simp [Leaf.valid, posShape, hc, hh, hw]

theorem inferBatchN_mul (n : Nat) (s : Shape) (h : 0 < prod s) : inferBatchN (n * prod s) s = .ok n := by
  rw [inferBatchN, if_neg h.ne', if_pos (Nat.mul_mod_left _ _), Nat.mul_div_cancel _ h]

theorem inferBatch_single (s : Shape) (h : 0 < prod s) : inferBatch s s = .ok 1 := by
  rw [inferBatch, ← inferBatchN_mul 1 s h, Nat.one_mul]

theorem fits_self (s : Shape) : fits s s = true := by simp [fits]

theorem fits_cons (n : Nat) (s : Shape) : fits (n :: s) s = true := by simp [fits]

theorem maybeTranspose_fits (l : Leaf) (obs : Shape) (h : fits obs l.shape = true) :
    maybeTranspose l obs = .ok (obs, false) := by
  unfold maybeTranspose
  split
  · exact if_pos h
  · rfl

/-- `leafToTensorAcc` succeeds exactly when its three steps do -/
theorem leafToTensorAcc_eq_ok (acc : Bool) (l : Leaf) (s : Shape) (info : KeyInfo) :
    leafToTensorAcc acc l s = .ok info ↔
      ∃ o, maybeTranspose l s = .ok (o, info.transposed) ∧
        (if acc then .ok true else isVectorized l o) = .ok info.vectorized ∧
        inferBatch o l.shape = .ok info.batch := by
  unfold leafToTensorAcc
  constructor
  · intro h
    split at h
    · cases h
    · split at h
      · cases h
      · split at h
        · cases h
        · cases h
          exact ⟨_, ‹_›, ‹_›, ‹_›⟩
  · rintro ⟨o, h1, h2, h3⟩
    simp only [h1, h2, h3]

/-- One observation of the space (`b = none`) or a batch of `n` (`b = some n`): the array is taken as it is
and counted as `b.getD 1` rows; it is flagged vectorized when it is a batch or an earlier key was (`acc`), in
which case its own shape is not even looked at. -/
theorem leafToTensorAcc_withBatch (acc : Bool) (l : Leaf) (h : l.valid = true) (b : Option Nat) :
    leafToTensorAcc acc l (b.toList ++ l.shape) = .ok ⟨b.getD 1, acc || b.isSome, false⟩ := by
  have hp := leaf_shape_pos l h
  cases b with
  | none =>
    refine (leafToTensorAcc_eq_ok ..).2 ⟨_, maybeTranspose_fits l _ (fits_self _), ?_, inferBatch_single _ hp⟩
    cases acc
    exacts [(isVectorized_false_iff l _).2 rfl, rfl]
  | some n =>
    refine (leafToTensorAcc_eq_ok ..).2 ⟨_, maybeTranspose_fits l _ (fits_cons n _), ?_, inferBatchN_mul n _ hp⟩
    cases acc
    exacts [(isVectorized_true_iff l _).2 ⟨n, rfl⟩, rfl]

/-- an image whose shape fits the space only after `transpose_image` is treated as its transpose -/
theorem leafToTensor_transposed (sp obs t : Shape) (b : Nat) (v : Bool) (h1 : fits obs sp = false)
    (h2 : transposeShape obs = .ok t) (h3 : fits t sp = true)
    (ht : leafToTensor (.box sp true) t = .ok ⟨b, v, false⟩) :
    leafToTensor (.box sp true) obs = .ok ⟨b, v, true⟩ := by
  obtain ⟨o, ho, hv, hb⟩ := (leafToTensorAcc_eq_ok ..).1 ht
  cases (maybeTranspose_fits (.box sp true) t h3).symm.trans ho
  refine (leafToTensorAcc_eq_ok ..).2 ⟨t, ?_, hv, hb⟩
  simp only [maybeTranspose, h1, h2, h3, Bool.false_eq_true, if_false, if_true]

theorem lookup_of_nodup (items : List (String × Leaf)) (k : String) (l : Leaf)
    (hn : keysNodup items = true) (hm : (k, l) ∈ items) : items.lookup k = some l := by
  induction items with
  | nil => cases hm
  | cons kl rest ih =>
    obtain ⟨k0, l0⟩ := kl
    rw [keysNodup, Bool.and_eq_true, Bool.not_eq_true'] at hn
    rcases List.mem_cons.1 hm with heq | hin
    · cases heq; exact List.lookup_cons_self
    · -- `k ≠ k0`, since `k` is a key of `rest`
      have hk : (k == k0) = false := beq_false_of_ne fun e =>
        Bool.false_ne_true (hn.1.symm.trans (List.any_eq_true.2 ⟨(k, l), hin, beq_iff_eq.2 e⟩))
      rw [List.lookup_cons, hk]
      exact ih hn.2 hin

theorem leafIsVectorized_of (l : Leaf) (s : Shape) (info : KeyInfo) (h : leafToTensor l s = .ok info) :
    leafIsVectorized l s = .ok info.vectorized := by
  obtain ⟨o, h1, h2, -⟩ := (leafToTensorAcc_eq_ok ..).1 h
  simp only [leafIsVectorized, h1]
  exact h2

theorem dictToTensor_cons_eq_ok (items : List (String × Leaf)) (acc : Bool) (k : String) (s : Shape)
    (rest : List (String × Shape)) (infos : List KeyInfo) :
    dictToTensor items acc ((k, s) :: rest) = .ok infos ↔
      ∃ l i is, items.lookup k = some l ∧ leafToTensorAcc acc l s = .ok i ∧
        dictToTensor items (acc || i.vectorized) rest = .ok is ∧ infos = i :: is := by
  rw [dictToTensor]
  constructor
  · intro h
    split at h
    · cases h
    · split at h
      · cases h
      · split at h
        · cases h
        · cases h
          exact ⟨_, _, _, ‹_›, ‹_›, ‹_›, rfl⟩
  · rintro ⟨l, i, is, h1, h2, h3, rfl⟩
    simp only [h1, h2, h3]

theorem dictToTensor_withBatch (items sub : List (String × Leaf)) (b : Option Nat)
    (hl : ∀ kl ∈ sub, items.lookup kl.1 = some kl.2) (hv : ∀ kl ∈ sub, kl.2.valid = true) :
    ∀ acc : Bool, dictToTensor items acc (sub.map fun kl => (kl.1, b.toList ++ kl.2.shape)) =
      .ok (sub.map fun _ => ⟨b.getD 1, acc || b.isSome, false⟩) := by
  induction sub with
  | nil => intro acc; rfl
  | cons kl rest ih =>
    intro acc
    rw [List.forall_mem_cons] at hl hv
    -- the flag handed on, `acc || (acc || b.isSome)`, leaves the later keys with the same flag
    have hrest := ih hl.2 hv.2 (acc || (acc || b.isSome))
    conv at hrest => rhs; rw [Bool.or_self_left, Bool.or_assoc, Bool.or_self]
    exact (dictToTensor_cons_eq_ok ..).2 ⟨_, _, _, hl.1, leafToTensorAcc_withBatch acc _ hv.1 b, hrest, rfl⟩

theorem coversKeys_of_keys (items : List (String × Leaf)) (o : List (String × Shape))
    (h : o.map Prod.fst = items.map Prod.fst) : coversKeys items o = true := by
  simp only [coversKeys, List.all_eq_true, List.any_eq_true, beq_iff_eq]
  intro kl hkl
  obtain ⟨ks, hks, e⟩ := List.mem_map.1 (h ▸ List.mem_map_of_mem hkl : kl.1 ∈ o.map Prod.fst)
  exact ⟨ks, hks, e⟩

/-- the observation of the space with an optional leading batch dimension on every array -/
def withBatch (b : Option Nat) : ObsSpace → ObsShape
  | .leaf l => .arr (b.toList ++ l.shape)
  | .dict items => .dict (items.map fun kl => (kl.1, b.toList ++ kl.2.shape))

theorem single_eq (os : ObsSpace) : os.single = withBatch none os := by
  cases os <;> rfl

theorem batched_eq (n : Nat) (os : ObsSpace) : os.batched n = withBatch (some n) os := by
  cases os <;> rfl

theorem netBatch_const (i : KeyInfo) {β : Type} (a : β) (t : List β) :
    netBatch ((a :: t).map fun _ => i) = .ok i.batch ∧ ((a :: t).map fun _ => i).any (·.vectorized) = i.vectorized := by
  have hc : ∀ j ∈ t.map fun _ => i, j = i := fun j hj => (List.mem_map.1 hj).choose_spec.2.symm
  refine ⟨if_pos (List.all_eq_true.2 fun j hj => beq_iff_eq.2 (congrArg _ (hc j hj))), ?_⟩
  rw [List.map_cons, List.any_cons, Bool.or_eq_left_iff_imp, List.any_eq_true]
  rintro ⟨j, hj, h⟩
  exact hc j hj ▸ h

theorem obsToTensor_withBatch (os : ObsSpace) (hv : os.valid = true) (b : Option Nat) :
    ∃ infos, obsToTensor os (withBatch b os) = .ok infos ∧
      netBatch infos = .ok (b.getD 1) ∧ infos.any (·.vectorized) = b.isSome := by
  cases os with
  | leaf l =>
    refine ⟨[⟨b.getD 1, b.isSome, false⟩], ?_, rfl, Bool.or_false _⟩
    simp only [withBatch, obsToTensor, leafToTensor, leafToTensorAcc_withBatch false l hv b, Bool.false_or]
  | dict items =>
    simp only [ObsSpace.valid, Bool.and_eq_true, List.all_eq_true] at hv
    obtain ⟨⟨hne, hnd⟩, hval⟩ := hv
    have := dictToTensor_withBatch items items b
      (fun kl hkl => lookup_of_nodup items kl.1 kl.2 hnd hkl) hval false
    have hc : coversKeys items (items.map fun kl => (kl.1, b.toList ++ kl.2.shape)) = true :=
      coversKeys_of_keys _ _ (by rw [List.map_map]; rfl)
    refine ⟨items.map fun _ => ⟨b.getD 1, b.isSome, false⟩, ?_, ?_⟩
    · simp only [withBatch, obsToTensor, this, hc, if_true, Bool.false_or]
    · cases items with
      | nil => cases hne
      | cons a t => exact netBatch_const _ a t

/-- `BaseModel.is_vectorized_observation` answers what `obs_to_tensor` reports, whenever the latter succeeds
(on any observation, not only the well-shaped ones) -/
theorem dictIsVectorized_of (items : List (String × Leaf)) : ∀ (o : List (String × Shape)) (acc : Bool)
    (infos : List KeyInfo), dictToTensor items acc o = .ok infos →
    dictIsVectorized items acc o = .ok (acc || infos.any (·.vectorized))
  | [], acc, infos, h => by cases h; simp [dictIsVectorized]
  | (k, s) :: rest, acc, infos, h => by
    obtain ⟨l, i, is, hl, hi, his, rfl⟩ := (dictToTensor_cons_eq_ok ..).1 h
    have ih := dictIsVectorized_of items rest _ _ his
    cases acc with
    | true => simpa only [dictIsVectorized, hl, if_true, Bool.true_or] using ih
    | false =>
      simpa only [dictIsVectorized, hl, leafIsVectorized_of l s i hi, Bool.false_eq_true, if_false,
        Bool.false_or, List.any_cons] using ih

theorem policyIsVectorized_of (os : ObsSpace) (obs : ObsShape) (infos : List KeyInfo)
    (h : obsToTensor os obs = .ok infos) : policyIsVectorized os obs = .ok (infos.any (·.vectorized)) := by
  unfold obsToTensor at h
  split at h
  · split at h
    · cases h
    · cases h
      simp [policyIsVectorized, leafIsVectorized_of _ _ _ ‹_›]
  · split at h
    · cases h
    · split at h
      · cases h
        simp [policyIsVectorized, dictIsVectorized_of _ _ _ _ ‹_›]
      · cases h
  · cases h

theorem act_shape_pos (as : ActSpace) (h : as.valid = true) : 0 < prod as.shape := by
  cases as with
  | box s => exact prod_pos_of_pos s h
  | discrete n => exact Nat.one_pos
  | multiDiscrete nv =>
    rw [ActSpace.valid, Bool.and_eq_true, decide_eq_true_eq] at h
    exact Nat.mul_pos h.2 Nat.one_pos
  | multiBinary n => exact Nat.mul_pos (of_decide_eq_true h) Nat.one_pos

theorem act_dim_eq (as : ActSpace) : as.dim = prod as.shape := by
  cases as <;> simp [ActSpace.dim, ActSpace.shape, prod]

theorem finishShape_eq (as : ActSpace) (h : as.valid = true) (b : Nat) (v : Bool) :
    finishShape as b v = if v then .ok (b :: as.shape) else if b = 1 then .ok as.shape else .error .squeeze := by
  rw [finishShape, act_dim_eq, inferBatchN_mul b _ (act_shape_pos as h)]

/-- **The optional batch dimension of the observation is the optional batch dimension of the action.** -/
theorem predict_withBatch (os : ObsSpace) (as : ActSpace) (hv : os.valid = true) (hfl : os.flattenable = true)
    (ha : as.valid = true) (b : Option Nat) : predict os as (withBatch b os) = .ok (b.toList ++ as.shape) := by
  obtain ⟨infos, h1, h2, h3⟩ := obsToTensor_withBatch os hv b
  simp only [predict, h1, h2, h3, hfl, Bool.not_true, Bool.false_eq_true, if_false, finishShape_eq as ha]
  cases b <;> rfl

theorem vectorizedFlag_withBatch (os : ObsSpace) (hv : os.valid = true) (b : Option Nat) :
    vectorizedFlag os (withBatch b os) = .ok b.isSome := by
  obtain ⟨infos, h1, -, h3⟩ := obsToTensor_withBatch os hv b
  simp only [vectorizedFlag, h1, h3]

theorem firstDim_withBatch (os : ObsSpace) (n : Nat) (hv : os.valid = true) :
    firstDim (withBatch (some n) os) = .ok n := by
  cases os with
  | leaf l => rfl
  | dict items =>
    cases items with
    | nil => cases hv
    | cons a t => rfl

theorem dqnExplore_withBatch (os : ObsSpace) (as : ActSpace) (hv : os.valid = true) (b : Option Nat) :
    dqnExplore os as (withBatch b os) = .ok (b.toList ++ as.shape) := by
  obtain ⟨infos, h1, -, h3⟩ := obsToTensor_withBatch os hv b
  rw [dqnExplore, policyIsVectorized_of _ _ _ h1, h3]
  cases b with
  | none => rfl
  | some n => simp only [firstDim_withBatch os n hv]; rfl

/-- A Dict observation with one batched and one single array: the second key is not checked (the first was
vectorized), so the batch sizes `n` and `1` meet in the forward pass. -/
theorem predict_two_keys (k1 k2 : String) (l1 l2 : Leaf) (as : ActSpace) (n : Nat) (hk : k1 ≠ k2)
    (h1 : l1.valid = true) (h2 : l2.valid = true) (f1 : l1.flattenable = true) (f2 : l2.flattenable = true)
    (ha : as.valid = true) :
    predict (.dict [(k1, l1), (k2, l2)]) as (.dict [(k1, n :: l1.shape), (k2, l2.shape)]) =
      if n = 1 then .ok (1 :: as.shape) else .error .mixedBatch := by
  have hb : (k2 == k1) = false := beq_false_of_ne hk.symm
  have ht : dictToTensor [(k1, l1), (k2, l2)] false [(k1, n :: l1.shape), (k2, l2.shape)] =
      .ok [⟨n, true, false⟩, ⟨1, true, false⟩] :=
    (dictToTensor_cons_eq_ok ..).2 ⟨l1, _, _, List.lookup_cons_self, leafToTensorAcc_withBatch false l1 h1 (some n),
      (dictToTensor_cons_eq_ok ..).2 ⟨l2, _, _, by rw [List.lookup_cons, hb]; exact List.lookup_cons_self,
        leafToTensorAcc_withBatch true l2 h2 none,
        rfl, rfl⟩, rfl⟩
  have hc := coversKeys_of_keys [(k1, l1), (k2, l2)] [(k1, n :: l1.shape), (k2, l2.shape)] rfl
  simp only [predict, obsToTensor, ht, hc, if_true, ObsSpace.flattenable, List.all_cons, f1, f2, List.all_nil,
    Bool.and_self, Bool.not_true, Bool.false_eq_true, if_false, netBatch, finishShape_eq as ha, List.any_cons,
    Bool.true_or]
  by_cases hn : n = 1
  · subst hn; rfl
  · simp [hn, Ne.symm hn]

section Order
variable {α : Type} [LinearOrder α]

theorem clip_eq (x lo hi : α) : clip x lo hi = min (max x lo) hi := Interval.ite_eq_min_max x lo hi

theorem clip_mem (x lo hi : α) (h : lo ≤ hi) : lo ≤ clip x lo hi ∧ clip x lo hi ≤ hi :=
  clip_eq x lo hi ▸ Interval.min_max_mem x h

/-- Invariant of the scan over a row `l`: `best = l[bi]` is the maximum so far and `xs` is what is left of
`l` from position `i` on. -/
theorem argmaxFrom_spec (l : List α) (xs : List α) : ∀ (best : α) (bi i : Nat),
    l[bi]? = some best → l.drop i = xs →
    ∃ v, l[argmaxFrom best bi i xs]? = some v ∧ best ≤ v ∧ ∀ y ∈ xs, y ≤ v := by
  induction xs with
  | nil => exact fun best bi i h1 _ => ⟨best, h1, le_rfl, nofun⟩
  | cons x xs ih =>
    intro best bi i h1 h2
    have hx : l[i]? = some x := by rw [← List.head?_drop, h2]; rfl
    have hxs : l.drop (i + 1) = xs := by rw [← List.tail_drop, h2]; rfl
    unfold argmaxFrom
    split
    next hlt =>
      obtain ⟨v, hv, hxv, hall⟩ := ih x i (i + 1) hx hxs
      exact ⟨v, hv, (hlt.trans_le hxv).le, List.forall_mem_cons.2 ⟨hxv, hall⟩⟩
    next hlt =>
      obtain ⟨v, hv, hbv, hall⟩ := ih best bi (i + 1) h1 hxs
      exact ⟨v, hv, hbv, List.forall_mem_cons.2 ⟨(not_lt.1 hlt).trans hbv, hall⟩⟩

theorem argmax_spec (l : List α) (h : l ≠ []) :
    ∃ v, l[argmax l]? = some v ∧ ∀ y ∈ l, y ≤ v := by
  cases l with
  | nil => exact absurd rfl h
  | cons x xs =>
    obtain ⟨v, hv, hxv, hall⟩ := argmaxFrom_spec (x :: xs) xs x 0 1 rfl rfl
    exact ⟨v, hv, List.forall_mem_cons.2 ⟨hxv, hall⟩⟩

theorem argmax_lt (l : List α) (h : l ≠ []) : argmax l < l.length := by
  obtain ⟨v, hv, -⟩ := argmax_spec l h
  exact (List.getElem?_eq_some_iff.1 hv).1

theorem mdMode_cons (n : Nat) (ns : List Nat) (logits : List α) :
    mdMode (n :: ns) logits = argmax (logits.take n) :: mdMode ns (logits.drop n) := rfl

end Order

section BoxPost
variable {α : Type} [LinearOrder α] [Add α] [Sub α] [Mul α] [Div α] [OfNat α 1] [OfNat α 2]

/-- whatever the arithmetic of `affine` produces (any rounding), the result is inside the bounds -/
theorem unscale_mem (lo hi s : α) (h : lo ≤ hi) : lo ≤ unscale lo hi s ∧ unscale lo hi s ≤ hi :=
  clip_mem _ lo hi h

theorem postBox1_mem (squash : Bool) (lo hi x : α) (h : lo ≤ hi) :
    lo ≤ postBox1 squash lo hi x ∧ postBox1 squash lo hi x ≤ hi := by
  cases squash
  · exact clip_mem x lo hi h
  · exact clip_mem _ lo hi h

omit [Add α] [Sub α] [Mul α] [Div α] [OfNat α 1] [OfNat α 2] in
theorem inBox_cons {l h x : α} {los his xs : List α} (h1 : l ≤ x) (h2 : x ≤ h) (h3 : inBox los his xs = true) :
    inBox (l :: los) (h :: his) (x :: xs) = true := by
  simp only [inBox, h3, not_lt.2 h1, not_lt.2 h2, decide_false, Bool.not_false, Bool.and_self]

theorem postBox_length (squash : Bool) : ∀ (lo hi xs : List α),
    lo.length = xs.length → hi.length = xs.length → (postBox squash lo hi xs).length = xs.length := by
  intro lo hi xs
  induction xs generalizing lo hi with
  | nil => intro h1 _; rw [List.eq_nil_of_length_eq_zero h1]; rfl
  | cons x xs ih =>
    intro h1 h2
    match lo, hi, h1, h2 with
    | l :: los, h :: his, h1, h2 => exact congrArg Nat.succ (ih los his (Nat.succ.inj h1) (Nat.succ.inj h2))

end BoxPost

section Field
variable {α : Type} [Field α] [LinearOrder α] [IsStrictOrderedRing α]

omit [IsStrictOrderedRing α] in
/-- `unscale_action` as an expression of `Lemmas/Interval.lean` -/
theorem unscale_eq (lo hi s : α) : unscale lo hi s = min (max (lo + (s + 1) / 2 * (hi - lo)) lo) hi := by
  rw [unscale, clip_eq, affine, mul_div_right_comm]

/-- (`h` is not used: at or above `hi` the clip gives `hi` whatever `lo` is) -/
theorem unscale_one (lo hi : α) (h : lo ≤ hi) : unscale lo hi 1 = hi := by
  rw [unscale_eq, Interval.unscale_one, Interval.min_max_of_ge le_rfl]

set_option linter.unusedSectionVars false in
theorem unscale_neg_one (lo hi : α) (h : lo ≤ hi) : unscale lo hi (-1) = lo := by
  rw [unscale_eq, Interval.unscale_neg_one, Interval.min_max_of_le h le_rfl]

theorem unscale_scale (lo hi a : α) (h : lo < hi) (h1 : lo ≤ a) (h2 : a ≤ hi) :
    unscale lo hi (scale lo hi a) = a := by
  rw [unscale_eq, scale, Interval.unscale_scale h.ne, Interval.min_max_of_mem h1 h2]

end Field

/-- a well-formed action space: `low ≤ high` component-wise, at least one class per discrete component -/
def ActSpaceV.wf {α : Type} [LE α] : ActSpaceV α → Prop
  | .box lo hi => List.Forall₂ (· ≤ ·) lo hi
  | .discrete n => 0 < n
  | .multiDiscrete nv => ∀ n ∈ nv, 0 < n
  | .multiBinary _ => True

/-- number of values the network emits for one batch element -/
def ActSpaceV.outDim {α : Type} : ActSpaceV α → Nat
  | .box lo _ => lo.length
  | .discrete n => n
  | .multiDiscrete nv => nv.sum
  | .multiBinary n => n

theorem getElem?_map_range {β : Type} (f : Nat → β) {n i : Nat} (h : i < n) :
    ((List.range n).map f)[i]? = some (f i) := by
  rw [List.getElem?_map, List.getElem?_range h]; rfl

section OneHot
variable {α : Type} [Zero α] [One α]

theorem oneHot_length (n k : Nat) : (oneHot n k : List α).length = n := by
  rw [oneHot, List.length_map, List.length_range]

theorem oneHot_getElem? (n k i : Nat) (h : i < n) :
    (oneHot n k : List α)[i]? = some (if i = k then 1 else 0) := getElem?_map_range _ h

theorem multiOneHot_length : ∀ (nv ks : List Nat), ks.length = nv.length →
    (multiOneHot nv ks : List α).length = nv.sum
  | [], [], _ => rfl
  | n :: ns, k :: ks, h => by
    rw [multiOneHot, List.length_append, oneHot_length, List.sum_cons,
      multiOneHot_length ns ks (Nat.succ.inj h)]

end OneHot

section OneHotOrder
variable {α : Type} [Field α] [LinearOrder α] [IsStrictOrderedRing α]

/-- the position of the `1` is the value: `argmax` decodes a one-hot vector -/
theorem argmax_oneHot (n k : Nat) (hk : k < n) : argmax (oneHot n k : List α) = k := by
  have hne : (oneHot n k : List α) ≠ [] :=
    List.ne_nil_of_length_pos ((oneHot_length (α := α) n k).symm ▸ Nat.zero_lt_of_lt hk)
  obtain ⟨v, hv, hmax⟩ := argmax_spec (oneHot n k : List α) hne
  have hlt := argmax_lt (oneHot n k : List α) hne
  rw [oneHot_length] at hlt
  rw [oneHot_getElem? n k _ hlt] at hv
  by_contra hne'
  rw [if_neg hne'] at hv
  -- the maximum `v` is `0`, but the list contains a `1`
  have h1 := hmax 1 (List.mem_of_getElem? ((oneHot_getElem? n k k hk).trans (if_pos rfl ▸ rfl)))
  rw [← Option.some.inj hv] at h1
  exact not_le.2 zero_lt_one h1

theorem mdMode_multiOneHot : ∀ (nv ks : List Nat), allLt nv ks = true →
    mdMode nv (multiOneHot nv ks : List α) = ks
  | [], [], _ => rfl
  | n :: ns, k :: ks, h => by
    rw [allLt, Bool.and_eq_true, decide_eq_true_eq] at h
    have hl := oneHot_length (α := α) n k
    rw [mdMode_cons, multiOneHot, List.take_left' hl, List.drop_left' hl, argmax_oneHot n k h.1,
      mdMode_multiOneHot ns ks h.2]

end OneHotOrder

/-- mixed-radix digits: `q * m + r` with `r < m` has quotient `q` and remainder `r` -/
theorem divMod_mul_add (q m r : Nat) (h : r < m) : (q * m + r) / m = q ∧ (q * m + r) % m = r := by
  rw [Nat.add_comm, Nat.mul_comm]
  exact ⟨by rw [Nat.add_mul_div_left _ _ (Nat.zero_lt_of_lt h), Nat.div_eq_of_lt h, Nat.zero_add],
    by rw [Nat.add_mul_mod_self_left, Nat.mod_eq_of_lt h]⟩

theorem idx_lt (a b A B : Nat) (ha : a < A) (hb : b < B) : a * B + b < A * B :=
  calc a * B + b < a * B + B := Nat.add_lt_add_left hb _
    _ = (a + 1) * B := (Nat.succ_mul a B).symm
    _ ≤ A * B := Nat.mul_le_mul_right B ha

/-- where `out[i]` of `transposeHWC` comes from -/
def srcHWC (H W C i : Nat) : Nat := ((i % (H * W)) / W) * (W * C) + (i % W) * C + i / (H * W)

/-- where `out[i]` of `transposeCHW` comes from -/
def srcCHW (H W C i : Nat) : Nat := (i % C) * (H * W) + (i / (W * C)) * W + (i / C) % W

theorem srcHWC_at (H W C c h w : Nat) (hh : h < H) (hw : w < W) :
    srcHWC H W C (c * (H * W) + h * W + w) = h * (W * C) + w * C + c := by
  -- the index read as `c * (H * W) + (h * W + w)`, as `(c * H + h) * W + w`, and its remainder `h * W + w`
  have h1 := divMod_mul_add c (H * W) (h * W + w) (idx_lt h w H W hh hw)
  have h2 := divMod_mul_add h W w hw
  have h3 := divMod_mul_add (c * H + h) W w hw
  rw [Nat.add_mul, Nat.mul_assoc] at h3
  rw [← Nat.add_assoc] at h1
  rw [srcHWC, h1.1, h1.2, h3.2, h2.1]

theorem srcHWC_lt (H W C i : Nat) (hi : i < C * H * W) : srcHWC H W C i < H * W * C := by
  rw [Nat.mul_assoc] at hi
  have hHW : 0 < H * W := Nat.pos_of_mul_pos_left (Nat.zero_lt_of_lt hi)
  have hW : 0 < W := Nat.pos_of_mul_pos_left hHW
  rw [srcHWC, Nat.add_assoc, Nat.mul_assoc]
  exact idx_lt _ _ H (W * C) ((Nat.div_lt_iff_lt_mul hW).2 (Nat.mod_lt _ hHW))
    (idx_lt _ _ W C (Nat.mod_lt _ hW) ((Nat.div_lt_iff_lt_mul hHW).2 hi))

theorem srcCHW_decomp (H W C i : Nat) (hi : i < H * W * C) :
    ∃ c h w, c < C ∧ h < H ∧ w < W ∧ srcCHW H W C i = c * (H * W) + h * W + w ∧
      h * (W * C) + w * C + c = i := by
  rw [Nat.mul_assoc] at hi
  have hWC : 0 < W * C := Nat.pos_of_mul_pos_left (Nat.zero_lt_of_lt hi)
  have hC : 0 < C := Nat.pos_of_mul_pos_left hWC
  have hW : 0 < W := Nat.pos_of_mul_pos_right hWC
  refine ⟨i % C, i / (W * C), (i / C) % W, Nat.mod_lt _ hC, (Nat.div_lt_iff_lt_mul hWC).2 hi,
    Nat.mod_lt _ hW, rfl, ?_⟩
  rw [Nat.mul_comm W C, ← Nat.div_div_eq_div_mul, Nat.mul_comm C W, ← Nat.mul_assoc, ← Nat.add_mul,
    Nat.div_add_mod' (i / C) W, Nat.div_add_mod' i C]

section Transpose
variable {β γ : Type} [Inhabited β] [Inhabited γ]

theorem transposeHWC_length (H W C : Nat) (flat : List β) : (transposeHWC H W C flat).length = C * H * W := by
  rw [transposeHWC, List.length_map, List.length_range]

theorem transposeHWC_getElem? (H W C : Nat) (flat : List β) (i : Nat) (hi : i < C * H * W) :
    (transposeHWC H W C flat)[i]? = some (flat.getD (srcHWC H W C i) default) :=
  getElem?_map_range _ hi

/-- `out[c, h, w] = in[h, w, c]` -/
theorem transposeHWC_index (H W C : Nat) (flat : List β) (c h w : Nat) (hc : c < C) (hh : h < H) (hw : w < W) :
    (transposeHWC H W C flat)[c * (H * W) + h * W + w]? = some (flat.getD (h * (W * C) + w * C + c) default) := by
  rw [transposeHWC_getElem? H W C flat _ (by
      rw [Nat.mul_assoc, Nat.add_assoc]; exact idx_lt c _ C (H * W) hc (idx_lt h w H W hh hw)),
    srcHWC_at H W C c h w hh hw]

end Transpose

end SB3Verif.Lemmas.Predict
