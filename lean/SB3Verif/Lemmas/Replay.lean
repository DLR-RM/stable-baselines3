/-
Helper lemmas for C03 (model: `SB3Verif/Model/Replay.lean`): the window of the most recent indices of a ring
(which slots it covers, what one write does to it; index `a` sits in slot `a % cap`, `Lemmas/RingIndex.lean`), the
representation invariant `Inv` (arrays ↔ rows added since the last reset), its preservation by `add` / `reset`, and
what `get` / `sampleSlots` read through it.
-/
import SB3Verif.Model.Replay
import SB3Verif.Lemmas.RingIndex
import Mathlib.Order.MinMax

namespace SB3Verif.Lemmas.Replay
open SB3Verif.Replay SB3Verif.RingIndex

section ring
variable {cap L : ℕ}

/-- Sliding the window by one keeps a representative of every slot. -/
theorem exists_in_window {s : ℕ} (hL : cap ≤ L) (hs : s < cap) : ∃ a, a < L ∧ L ≤ a + cap ∧ a % cap = s := by
  induction L, hL using Nat.le_induction with
  | base => exact ⟨s, hs, Nat.le_add_left .., Nat.mod_eq_of_lt hs⟩
  | succ L _ ih =>
    obtain ⟨a, h1, h2, h3⟩ := ih
    rcases h2.eq_or_lt with rfl | h
    · exact ⟨a + cap, Nat.lt_succ_self _, Nat.add_le_add_left (Nat.zero_lt_of_lt hs) _,
        (Nat.add_mod_right a cap).trans h3⟩
    · exact ⟨a, Nat.lt_succ_of_lt h1, h, h3⟩

/-- In a full ring the offsets `0 < k < cap` from the cursor reach exactly the `cap - 1` most recent indices:
offset `k` is index `L - cap + k`. -/
theorem rot_sound {k : ℕ} (hL : cap ≤ L) (h1 : 0 < k) (h2 : k < cap) :
    L - cap + k < L ∧ L < L - cap + k + cap ∧ (L - cap + k) % cap = (k + L % cap) % cap := by
  refine ⟨(Nat.add_lt_add_left h2 _).trans_eq (Nat.sub_add_cancel hL), ?_, ?_⟩
  · rw [Nat.add_right_comm, Nat.sub_add_cancel hL]; exact Nat.lt_add_of_pos_right h1
  · rw [Nat.add_mod_mod, ← Nat.add_mod_right (L - cap + k), Nat.add_right_comm, Nat.sub_add_cancel hL, Nat.add_comm]

theorem rot_complete {a : ℕ} (ha : a < L) (hs : L < a + cap) :
    0 < a + cap - L ∧ a + cap - L < cap ∧ (a + cap - L + L % cap) % cap = a % cap :=
  ⟨Nat.sub_pos_of_lt hs, Nat.sub_lt_left_of_lt_add hs.le (Nat.add_lt_add_right ha cap),
    by rw [Nat.add_mod_mod, Nat.sub_add_cancel hs.le, Nat.add_mod_right]⟩

/-- `full` after an `add`. -/
theorem flag_step {p L' : ℕ} {f : Bool} (hp : p = L % cap) (hf : f = decide (cap ≤ L)) (hL : L' = L + 1) :
    (if p + 1 = cap then true else f) = decide (cap ≤ L') := by
  subst hp hf hL
  rw [Bool.if_true_left, ← Bool.decide_or, decide_eq_decide]
  by_cases hf : cap ≤ L
  · exact iff_of_true (Or.inr hf) (Nat.le_succ_of_le hf)
  · have hlt := Nat.lt_of_not_le hf
    rw [Nat.mod_eq_of_lt hlt]
    exact ⟨fun h => h.elim (fun e => e.symm.le) fun h => absurd h hf, fun h => Or.inl (Nat.le_antisymm hlt h)⟩

end ring

/-- `A` holds, at slot `a % cap`, the value `g a` for each of the (at most `cap`) most recent indices. -/
def Window {β : Type} (A : List β) (d : β) (cap L : ℕ) (g : ℕ → β) : Prop :=
  ∀ a, a < L → L ≤ a + cap → A.getD (a % cap) d = g a

/-- the same for the `cap - 1` most recent indices -/
def WindowS {β : Type} (A : List β) (d : β) (cap L : ℕ) (g : ℕ → β) : Prop :=
  ∀ a, a < L → L < a + cap → A.getD (a % cap) d = g a

section window
variable {β : Type} {A : List β} {d : β} {cap L : ℕ} {g : ℕ → β}

/-- Both are `RingIndex.Win k`, whose bound is `L + k ≤ a + cap`: `L + 0 ≤ _` and `L + 1 ≤ _` are `L ≤ _` and `L < _`
by definition. The ring lemmas are stated once, for `Win k`. -/
theorem Window.iff_win : Window A d cap L g ↔ Win 0 A d cap L g := Iff.rfl

theorem WindowS.iff_win : WindowS A d cap L g ↔ Win 1 A d cap L g := Iff.rfl

theorem Window.nil : Window A d cap 0 g := Window.iff_win.2 (Win.nil _ _ _ _ _)

theorem WindowS.nil : WindowS A d cap 0 g := WindowS.iff_win.2 (Win.nil _ _ _ _ _)

/-- The strict window does not reach the cursor's own slot. -/
theorem WindowS.set_cursor (h : WindowS A d cap L g) (w : β) : WindowS (A.set (L % cap) w) d cap L g :=
  fun a ha hw => (getD_set_ne (mod_ne_of_lt ha hw).symm w).trans (h a ha hw)

end window

theorem cap_pos (c : Cfg) : 0 < c.cap := Nat.lt_of_lt_of_le Nat.one_pos (Nat.le_max_right ..)

/-- The representation invariant tying the arrays to the rows added since the last reset. -/
structure Inv (c : Cfg) (b : Buf) (H : List Row) : Prop where
  cfg_eq : b.cfg = c
  pos_eq : b.pos = H.length % c.cap
  full_eq : b.full = decide (c.cap ≤ H.length)
  l_obs : b.obsA.length = c.cap
  l_next : b.nextA.length = c.cap
  l_act : b.actA.length = c.cap
  l_rew : b.rewA.length = c.cap
  l_done : b.doneA.length = c.cap
  l_to : b.toA.length = c.cap
  act_w : Window b.actA [] c.cap H.length (fun a => (H.getD a []).map (·.act))
  rew_w : Window b.rewA [] c.cap H.length (fun a => (H.getD a []).map (·.rew))
  done_w : Window b.doneA [] c.cap H.length (fun a => (H.getD a []).map (fun t => b2i t.done))
  to_w : c.hto = true → Window b.toA [] c.cap H.length (fun a => (H.getD a []).map (fun t => b2i t.timeout))
  to_z : c.hto = false → b.toA = zerosI c.cap c.nEnvs
  obs_w : c.memopt = false → Window b.obsA [] c.cap H.length (fun a => (H.getD a []).map (·.obs))
  next_w : c.memopt = false → Window b.nextA [] c.cap H.length (fun a => (H.getD a []).map (·.next))
  obs_ws : c.memopt = true → WindowS b.obsA [] c.cap H.length (fun a => (H.getD a []).map (·.obs))
  obs_last : c.memopt = true → 0 < H.length →
    b.obsA.getD (H.length % c.cap) [] = (H.getD (H.length - 1) []).map (·.next)

theorem size_eq {c : Cfg} {b : Buf} {H : List Row} (h : Inv c b H) : b.size = min H.length c.cap := by
  unfold Buf.size
  rw [h.cfg_eq, h.full_eq, h.pos_eq]
  by_cases hf : c.cap ≤ H.length
  · rw [if_pos (decide_eq_true hf), Nat.min_eq_right hf]
  · rw [if_neg (fun h => hf (of_decide_eq_true h)), Nat.mod_eq_of_lt (Nat.lt_of_not_le hf),
      Nat.min_eq_left (Nat.le_of_not_le hf)]

variable {c : Cfg} {b : Buf} {H : List Row}

/-- With the cursor at 0 and the flag down nothing is claimed of the array contents. -/
theorem Inv.empty (hcfg : b.cfg = c) (hpos : b.pos = 0) (hfull : b.full = false)
    (l_obs : b.obsA.length = c.cap) (l_next : b.nextA.length = c.cap) (l_act : b.actA.length = c.cap)
    (l_rew : b.rewA.length = c.cap) (l_done : b.doneA.length = c.cap) (l_to : b.toA.length = c.cap)
    (to_z : c.hto = false → b.toA = zerosI c.cap c.nEnvs) : Inv c b [] :=
  ⟨hcfg, hpos.trans (Nat.zero_mod _).symm, hfull.trans (decide_eq_false (Nat.not_le_of_gt (cap_pos c))).symm,
    l_obs, l_next, l_act, l_rew, l_done, l_to, .nil, .nil, .nil, fun _ => .nil, to_z, fun _ => .nil, fun _ => .nil,
    fun _ => .nil, fun _ h => absurd h (Nat.lt_irrefl 0)⟩

theorem inv_init (c : Cfg) : Inv c (Buf.init c) [] :=
  Inv.empty rfl rfl rfl List.length_replicate List.length_replicate List.length_replicate List.length_replicate
    List.length_replicate List.length_replicate fun _ => rfl

theorem inv_reset (h : Inv c b H) : Inv c b.reset [] :=
  Inv.empty h.cfg_eq rfl rfl h.l_obs h.l_next h.l_act h.l_rew h.l_done h.l_to h.to_z

theorem length_ite {β : Type} (p : Prop) [Decidable p] {x y : List β} {n : ℕ} (hx : x.length = n)
    (hy : y.length = n) : (if p then x else y).length = n := by
  split <;> assumption

/-- One `add` on a field array: slot `pos` receives the new row's column `f`. -/
theorem push_row {β : Type} {A A' : List (List β)} {cap p k : ℕ} {row : Row} (f : Replay.Trans → β)
    (hA : A.length = cap) (hc : 0 < cap) (h : Win k A [] cap H.length fun a => (H.getD a []).map f)
    (hp : p = H.length % cap) (hA' : A' = A.set p (row.map f)) :
    Win k A' [] cap (H ++ [row]).length fun a => ((H ++ [row]).getD a []).map f :=
  ring_push hA hc h (congrArg (List.map f) (getD_concat_length H row))
    (fun _ ha => congrArg (List.map f) (getD_concat_lt row ha)) hp hA' List.length_append

theorem add_obsA_memopt (h : b.cfg.memopt = true) (row : Row) :
    (b.add row).obsA = (b.obsA.set b.pos (row.map (·.obs))).set ((b.pos + 1) % b.cfg.cap) (row.map (·.next)) :=
  if_pos h

theorem inv_add (h : Inv c b H) (row : Row) : Inv c (b.add row) (H ++ [row]) := by
  obtain rfl := h.cfg_eq
  have hc := cap_pos b.cfg
  have hlen : (H ++ [row]).length = H.length + 1 := List.length_append
  exact {
    -- `Buf.add` is unfolded first: unifying a projection of `b.add row` with an `if` directly is slow to check
    cfg_eq := by dsimp only [Buf.add]
    pos_eq := by dsimp only [Buf.add]; exact cursor_step hc h.pos_eq hlen
    full_eq := by dsimp only [Buf.add]; exact flag_step h.pos_eq h.full_eq hlen
    l_obs := length_ite _ (by rw [List.length_set, List.length_set]; exact h.l_obs) (List.length_set.trans h.l_obs)
    l_next := length_ite _ h.l_next (List.length_set.trans h.l_next)
    l_act := List.length_set.trans h.l_act
    l_rew := List.length_set.trans h.l_rew
    l_done := List.length_set.trans h.l_done
    l_to := length_ite _ (List.length_set.trans h.l_to) h.l_to
    -- a `Window` field goes into `push_row` as `Win 0` and comes out as one, the `WindowS` as `Win 1`: they are the
    -- same propositions (`Window.iff_win`, `WindowS.iff_win`)
    act_w := push_row (k := 0) (·.act) h.l_act hc h.act_w h.pos_eq rfl
    rew_w := push_row (k := 0) (·.rew) h.l_rew hc h.rew_w h.pos_eq rfl
    done_w := push_row (k := 0) (fun t => b2i t.done) h.l_done hc h.done_w h.pos_eq rfl
    to_w := fun hto => push_row (k := 0) (fun t => b2i t.timeout) h.l_to hc (h.to_w hto) h.pos_eq (if_pos hto)
    to_z := fun hto => (if_neg (ne_true_of_eq_false hto)).trans (h.to_z hto)
    obs_w := fun hm => push_row (k := 0) (·.obs) h.l_obs hc (h.obs_w hm) h.pos_eq (if_neg (ne_true_of_eq_false hm))
    next_w := fun hm => push_row (k := 0) (·.next) h.l_next hc (h.next_w hm) h.pos_eq (if_neg (ne_true_of_eq_false hm))
    -- memory-optimised: the next observation goes to the slot the strict window has just left, where the new
    -- cursor reads it
    obs_ws := fun hm => by
      rw [add_obsA_memopt hm, h.pos_eq, Nat.mod_add_mod, ← hlen]
      exact WindowS.set_cursor (push_row (k := 1) (·.obs) h.l_obs hc (h.obs_ws hm) rfl rfl) _
    obs_last := fun hm _ => by
      rw [add_obsA_memopt hm, h.pos_eq, Nat.mod_add_mod, ← hlen,
        getD_set_self (by rw [List.length_set, h.l_obs]; exact Nat.mod_lt _ hc), hlen, Nat.add_sub_cancel,
        getD_concat_length] }

theorem inv_run (c : Cfg) (ops : List Op) : Inv c (run c ops) (histOf ops) := by
  suffices h : ∀ (b : Buf) (H : List Row), Inv c b H → Inv c (ops.foldl Buf.step b) (ops.foldl histStep H) from
    h _ _ (inv_init c)
  induction ops with
  | nil => intro b H h; exact h
  | cons op rest ih =>
    intro b H h
    cases op with
    | add row => exact ih _ _ (inv_add h row)
    | reset => exact ih _ _ (inv_reset h)

/-- the done flag the property asks for -/
def specDone (c : Cfg) (t : Trans) : Int := b2i (t.done && !(c.hto && t.timeout))

structure InWin (c : Cfg) (H : List Row) (a : ℕ) : Prop where
  lt : a < H.length
  recent : H.length ≤ a + c.cap
  strict : c.memopt = true → H.length < a + c.cap

theorem cell_eq {β : Type} {A : List (List β)} {s a : ℕ} {f : Replay.Trans → β} {d : β}
    (hd : f default = d) (hw : A.getD s [] = (H.getD a []).map f) (e : ℕ) :
    (A.getD s []).getD e d = f (cellOf H a e) := by
  rw [hw, ← hd, List.getD_eq_getElem?_getD, List.getElem?_map, Option.getD_map]
  rfl

theorem cellI_zeros (cap n s e : ℕ) : cellI (zerosI cap n) s e = 0 := by
  unfold cellI zerosI
  simp only [List.getD_eq_getElem?_getD, List.getElem?_replicate]
  split
  · rw [Option.getD_some, List.getElem?_replicate]; split <;> rfl
  · rfl

/-- `dones * (1 - timeouts)` on the 0/1 numbers the arrays hold. -/
theorem mask_eq {x y : ℤ} {hto d t : Bool} (hx : x = b2i d) (hy : y = if hto then b2i t else 0) :
    x * (1 - y) = b2i (d && !(hto && t)) := by
  subst hx hy
  revert hto d t
  decide +kernel

theorem get_spec {c : Cfg} {b : Buf} {H : List Row} (h : Inv c b H) {a : ℕ} (hw : InWin c H a) (e : ℕ) :
    (b.get (a % c.cap) e).obs = (cellOf H a e).obs ∧
    (b.get (a % c.cap) e).act = (cellOf H a e).act ∧
    (b.get (a % c.cap) e).rew = (cellOf H a e).rew ∧
    (b.get (a % c.cap) e).done = specDone c (cellOf H a e) ∧
    (c.memopt = false → (b.get (a % c.cap) e).next = (cellOf H a e).next) ∧
    (c.memopt = true → (b.get (a % c.cap) e).next =
      if a + 1 = H.length then (cellOf H a e).next else (cellOf H (a + 1) e).obs) := by
  obtain ⟨ha, hr, hs⟩ := hw
  obtain rfl := h.cfg_eq
  dsimp only [Buf.get]
  have hobs : b.obsA.getD (a % b.cfg.cap) [] = (H.getD a []).map (·.obs) := by
    cases hm : b.cfg.memopt
    exacts [h.obs_w hm a ha hr, h.obs_ws hm a ha (hs hm)]
  refine ⟨cell_eq rfl hobs e, cell_eq rfl (h.act_w a ha hr) e, cell_eq rfl (h.rew_w a ha hr) e, ?_,
    fun hm => ?_, fun hm => ?_⟩
  · refine mask_eq (cell_eq rfl (h.done_w a ha hr) e) ?_
    cases hto : b.cfg.hto with
    | true => exact cell_eq rfl (h.to_w hto a ha hr) e
    | false => rw [h.to_z hto]; exact cellI_zeros ..
  · exact (if_neg (ne_true_of_eq_false hm)).trans (cell_eq rfl (h.next_w hm a ha hr) e)
  · -- the next observation sits one slot further: the following add's observation, or what `obs_last` keeps
    refine (if_pos hm).trans ?_
    rw [Nat.mod_add_mod]
    split
    · next hl =>
      have := h.obs_last hm (Nat.zero_lt_of_lt ha)
      rw [← hl, Nat.add_sub_cancel] at this
      exact cell_eq rfl this e
    · next hl =>
      exact cell_eq rfl (h.obs_ws hm (a + 1) (Nat.lt_of_le_of_ne ha hl)
        ((Nat.lt_succ_of_lt (hs hm)).trans_eq (Nat.add_right_comm a _ 1))) e

/-- `sample` is in one of two regimes: memory-optimised and full, it draws an offset `1 ≤ k < cap` from the
cursor; otherwise it draws a slot below `size`. -/
theorem drawRange_eq (b : Buf) :
    b.drawRange = if (b.cfg.memopt && b.full) = true then (1, b.cfg.cap) else (0, b.size) := by
  unfold Buf.drawRange Buf.size
  cases b.cfg.memopt <;> cases b.full <;> rfl

theorem sampleSlots_eq (b : Buf) :
    b.sampleSlots = (List.range' b.drawRange.1 (b.drawRange.2 - b.drawRange.1)).map b.slotOfDraw := rfl

theorem mem_sampleSlots_rot (hr : (b.cfg.memopt && b.full) = true) {s : ℕ} :
    s ∈ b.sampleSlots ↔ ∃ k, 0 < k ∧ k < b.cfg.cap ∧ (k + b.pos) % b.cfg.cap = s := by
  rw [sampleSlots_eq, drawRange_eq, if_pos hr, List.mem_map]
  refine exists_congr fun k => ?_
  rw [List.mem_range'_1, Nat.add_sub_cancel' (cap_pos b.cfg), and_assoc, Buf.slotOfDraw, if_pos hr]
  exact Iff.rfl

theorem sampleSlots_plain (hr : ¬ (b.cfg.memopt && b.full) = true) : b.sampleSlots = List.range b.size := by
  rw [sampleSlots_eq, drawRange_eq, if_neg hr, show b.slotOfDraw = id from funext fun k => if_neg hr, List.map_id,
    List.range_eq_range']
  rfl

theorem sampleSlots_length (b : Buf) :
    b.sampleSlots.length = if (b.cfg.memopt && b.full) = true then b.cfg.cap - 1 else b.size := by
  rw [sampleSlots_eq, List.length_map, List.length_range', drawRange_eq]
  split <;> rfl

theorem Inv.rot_iff (h : Inv c b H) : (b.cfg.memopt && b.full) = true ↔ c.memopt = true ∧ c.cap ≤ H.length := by
  rw [h.cfg_eq, h.full_eq, Bool.and_eq_true, decide_eq_true_eq]

theorem slot_sound (h : Inv c b H) {s : ℕ} (hs : s ∈ b.sampleSlots) : ∃ a, InWin c H a ∧ a % c.cap = s := by
  obtain rfl := h.cfg_eq
  by_cases hr : (b.cfg.memopt && b.full) = true
  · obtain ⟨k, h1, h2, rfl⟩ := (mem_sampleSlots_rot hr).mp hs
    rw [h.pos_eq]
    obtain ⟨g1, g2, g3⟩ := rot_sound (h.rot_iff.mp hr).2 h1 h2
    exact ⟨_, ⟨g1, g2.le, fun _ => g2⟩, g3⟩
  · rw [sampleSlots_plain hr, List.mem_range, size_eq h, lt_min_iff] at hs
    by_cases hf : b.cfg.cap ≤ H.length
    · obtain ⟨a, h1, h2, h3⟩ := exists_in_window hf hs.2
      exact ⟨a, ⟨h1, h2, fun hm => absurd (h.rot_iff.mpr ⟨hm, hf⟩) hr⟩, h3⟩
    · have hl := Nat.lt_of_not_le hf
      exact ⟨s, ⟨hs.1, Nat.le_add_left_of_le hl.le, fun _ => Nat.lt_add_left _ hl⟩, Nat.mod_eq_of_lt hs.2⟩

theorem slot_complete (h : Inv c b H) {a : ℕ} (hw : InWin c H a) : a % c.cap ∈ b.sampleSlots := by
  by_cases hr : (b.cfg.memopt && b.full) = true
  · rw [mem_sampleSlots_rot hr, h.cfg_eq, h.pos_eq]
    exact ⟨_, rot_complete hw.lt (hw.strict (h.rot_iff.mp hr).1)⟩
  · rw [sampleSlots_plain hr, List.mem_range, size_eq h]
    exact lt_min_iff.mpr ⟨Nat.lt_of_le_of_lt (Nat.mod_le ..) hw.lt, Nat.mod_lt _ (cap_pos c)⟩

theorem slotOfDraw_mem {k : ℕ} (h1 : b.drawRange.1 ≤ k) (h2 : k < b.drawRange.2) :
    b.slotOfDraw k ∈ b.sampleSlots :=
  List.mem_map_of_mem (List.mem_range'_1.mpr ⟨h1, (Nat.add_sub_cancel' (h1.trans h2.le)).symm ▸ h2⟩)

theorem mem_domain {s e : ℕ} : (s, e) ∈ b.domain ↔ s ∈ b.sampleSlots ∧ e < b.cfg.nEnvs := by
  unfold Buf.domain
  simp only [List.mem_flatMap, List.mem_map, List.mem_range, Prod.mk.injEq]
  constructor
  · rintro ⟨s', hs', e', he', rfl, rfl⟩; exact ⟨hs', he'⟩
  · rintro ⟨hs, he⟩; exact ⟨s, hs, e, he, rfl, rfl⟩

theorem domain_length (b : Buf) : b.domain.length = b.sampleSlots.length * b.cfg.nEnvs := by
  unfold Buf.domain
  rw [List.length_flatMap]
  simp only [List.length_map, List.length_range, List.map_const', List.sum_replicate_nat]

theorem domain_sound (h : Inv c b H) {s e : ℕ} (hd : (s, e) ∈ b.domain) :
    ∃ a, InWin c H a ∧ a % c.cap = s ∧ e < c.nEnvs := by
  obtain ⟨hs, he⟩ := mem_domain.mp hd
  obtain ⟨a, hw, rfl⟩ := slot_sound h hs
  exact ⟨a, hw, rfl, h.cfg_eq ▸ he⟩

theorem range_empty_iff (h : Inv c b H) :
    ¬ (b.drawRange.1 < b.drawRange.2) ↔ (H.length = 0 ∨ (c.memopt = true ∧ c.cap = 1)) := by
  have hc := cap_pos c
  rw [drawRange_eq]
  by_cases hr : (b.cfg.memopt && b.full) = true
  · obtain ⟨hm, hf⟩ := h.rot_iff.mp hr
    rw [if_pos hr, h.cfg_eq]
    constructor
    · exact fun hn => Or.inr ⟨hm, Nat.le_antisymm (Nat.le_of_not_lt hn) hc⟩
    · rintro (h0 | ⟨_, h1⟩) hlt
      · exact Nat.ne_of_gt (hc.trans_le hf) h0
      · exact Nat.ne_of_gt hlt h1
  · rw [if_neg hr, size_eq h]
    show ¬ 0 < min H.length c.cap ↔ _
    rw [lt_min_iff]
    constructor
    · exact fun hn => Or.inl (Nat.eq_zero_of_not_pos fun h0 => hn ⟨h0, hc⟩)
    · rintro (h0 | ⟨hm, h1⟩) ⟨hl, _⟩
      · exact Nat.ne_of_gt hl h0
      · exact hr (h.rot_iff.mpr ⟨hm, (Nat.le_of_eq h1).trans hl⟩)

theorem table_eq_none : b.table = none ↔ ¬ b.drawRange.1 < b.drawRange.2 := by
  unfold Buf.table
  split
  · next h => exact iff_of_false (Option.some_ne_none _) (not_not_intro h)
  · next h => exact iff_of_true rfl h

theorem sample_some {draws : List (ℕ × ℕ)} {out : List Sampled} (h : b.sample draws = some out) :
    out = draws.map (fun d => b.get (b.slotOfDraw d.1) d.2) ∧
    ∀ d ∈ draws, (b.slotOfDraw d.1, d.2) ∈ b.domain := by
  unfold Buf.sample at h
  dsimp only at h
  split at h
  · next hc =>
    refine ⟨(Option.some.inj h).symm, fun d hd => ?_⟩
    have := List.all_eq_true.mp hc.2 d hd
    simp only [Bool.and_eq_true, decide_eq_true_eq] at this
    exact mem_domain.mpr ⟨slotOfDraw_mem this.1.1 this.1.2, this.2⟩
  · nomatch h

theorem wf_histOf (n : ℕ) (ops : List Op) (h : ops.all (Op.wf n) = true) : WF n (histOf ops) := by
  suffices hf : ∀ H, WF n H → ops.all (Op.wf n) = true → WF n (ops.foldl histStep H) from
    hf [] (fun _ hr => absurd hr List.not_mem_nil) h
  clear h
  induction ops with
  | nil => intro H h _; exact h
  | cons op rest ih =>
    intro H h hall
    rw [List.all_cons, Bool.and_eq_true] at hall
    apply ih _ _ hall.2
    cases op with
    | add row =>
      intro r hr
      rcases List.mem_append.mp hr with hr | hr
      · exact h r hr
      · rw [List.mem_singleton.mp hr]; exact of_decide_eq_true hall.1
    | reset => intro r hr; exact absurd hr List.not_mem_nil

theorem cellOf_getElem {n : ℕ} (hwf : WF n H) {a e : ℕ} (ha : a < H.length) (he : e < n) :
    ∃ (he' : e < H[a].length), cellOf H a e = H[a][e] := by
  have he' : e < H[a].length := (hwf _ (List.getElem_mem ha)).symm ▸ he
  refine ⟨he', ?_⟩
  simp only [cellOf, List.getD_eq_getElem?_getD, List.getElem?_eq_getElem ha, Option.getD_some,
    List.getElem?_eq_getElem he']

/-! ### Example data used by the non-vacuity `example`s of `Props/C03.lean` -/

/-- capacity `7 // 2 = 3`, two environments, 5 adds (wraps), standard variant with timeout handling -/
def exOps : List Op :=
  (List.range 5).map fun a => Op.add [⟨10 * a + 1, 10 * a + 2, 10 * a + 3, 10 * a + 4, a % 2 == 1, a == 3⟩,
                                      ⟨10 * a + 5, 10 * a + 6, 10 * a + 7, 10 * a + 8, a == 2, false⟩]

def exCfg : Cfg := ⟨7, 2, false, true, false⟩

/-- memory-optimised, capacity 3, full after 4 chained adds: two drawable slots, slot `pos` excluded -/
def exMem : Cfg := ⟨3, 1, true, false, false⟩
def exMemOps : List Op :=
  [.add [⟨1, 2, 101, 201, false, false⟩], .add [⟨2, 3, 102, 202, true, false⟩],
   .add [⟨7, 8, 103, 203, false, false⟩], .add [⟨8, 9, 104, 204, false, false⟩]]

end SB3Verif.Lemmas.Replay
