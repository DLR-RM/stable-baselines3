/-
C03 — Replay buffers return only real, still-stored transitions with correct dones.

Property theorems only (helper lemmas: `SB3Verif/Lemmas/Replay.lean`). All statements are about the
executable model `SB3Verif/Model/Replay.lean`, whose definitions the driver `SB3Verif/Driver/C03.lean`
runs against the real `ReplayBuffer` / `DictReplayBuffer`.

Quantifiers: every configuration `c` (every `buffer_size`, `n_envs` — divisible or not, `n_envs > buffer_size`
included —, both flags, array or Dict), every history `ops : List Op` of `add` / `reset` calls of any
length (before, at and many times past wrap-around), every row content. `run c ops` is the buffer after the
history, `histOf ops` the rows added since the last `reset` (oldest first), `cellOf H a e` what add number
`a` stored for environment `e`. `size` / `sample` do not change the state, so "any interleaving of
add/sample/size/reset" is "the queries at any prefix", which is what `∀ ops` gives.
-/
import SB3Verif.Lemmas.Replay

namespace SB3Verif.C03

open SB3Verif.Replay SB3Verif.Lemmas.Replay

/-- **Capacity**: the ring has `max(buffer_size // n_envs, 1) ≥ 1` slots, for every field array, at every
point of every history. -/
theorem capacity_eq (c : Cfg) (ops : List Op) :
    c.cap = max (c.bufferSize / c.nEnvs) 1 ∧ 1 ≤ c.cap ∧ (run c ops).cfg = c ∧
    (run c ops).obsA.length = c.cap ∧ (run c ops).nextA.length = c.cap ∧ (run c ops).actA.length = c.cap ∧
    (run c ops).rewA.length = c.cap ∧ (run c ops).doneA.length = c.cap ∧ (run c ops).toA.length = c.cap := by
  have h := inv_run c ops
  exact ⟨rfl, cap_pos c, h.cfg_eq, h.l_obs, h.l_next, h.l_act, h.l_rew, h.l_done, h.l_to⟩

/-- **Cursor and flag**: `pos = adds mod capacity`, `full ⇔ adds ≥ capacity` (adds since the last reset). -/
theorem pos_full_inv (c : Cfg) (ops : List Op) :
    (run c ops).pos = (histOf ops).length % c.cap ∧
    ((run c ops).full = true ↔ c.cap ≤ (histOf ops).length) := by
  have h := inv_run c ops
  exact ⟨h.pos_eq, by rw [h.full_eq, decide_eq_true_eq]⟩

/-- **size() = min(adds, capacity)**. -/
theorem size_eq (c : Cfg) (ops : List Op) :
    (run c ops).size = min (histOf ops).length c.cap :=
  Lemmas.Replay.size_eq (inv_run c ops)

/-- **Soundness of `sample`**: whatever `(index, env)` pair `sample` can gather, the returned observation,
action and reward (and, for the standard variant, next observation) are those stored by ONE add call `a`
for ONE environment column `e`; that add is among the `capacity` most recent ones since the last reset
(so nothing from before a `reset`, and no `np.zeros` filler, is ever returned), it is the add whose slot was
drawn, and for the memory-optimised variant it is never the oldest of a full ring (`adds < a + capacity`). -/
theorem sample_sound (c : Cfg) (ops : List Op) (s e : ℕ) (h : (s, e) ∈ (run c ops).domain) :
    ∃ a, a < (histOf ops).length ∧ (histOf ops).length ≤ a + c.cap ∧ a % c.cap = s ∧ e < c.nEnvs ∧
      (c.memopt = true → (histOf ops).length < a + c.cap) ∧
      ((run c ops).get s e).obs = (cellOf (histOf ops) a e).obs ∧
      ((run c ops).get s e).act = (cellOf (histOf ops) a e).act ∧
      ((run c ops).get s e).rew = (cellOf (histOf ops) a e).rew ∧
      (c.memopt = false → ((run c ops).get s e).next = (cellOf (histOf ops) a e).next) := by
  have hi := inv_run c ops
  obtain ⟨a, hw, rfl, he⟩ := domain_sound hi h
  obtain ⟨h1, h2, h3, _, h5, _⟩ := get_spec hi hw e
  exact ⟨a, hw.lt, hw.recent, rfl, he, hw.strict, h1, h2, h3, h5⟩

/-- **Done flag**: the sampled done is `1` exactly when the stored transition ended an episode and
(with timeout handling on) was not a time-limit truncation — `dones * (1 - timeouts)` computes
`done ∧ ¬(handle_timeout_termination ∧ TimeLimit.truncated)` — for the same add `a` as in `sample_sound`. -/
theorem sample_done (c : Cfg) (ops : List Op) (s e : ℕ) (h : (s, e) ∈ (run c ops).domain) :
    ∃ a, a < (histOf ops).length ∧ (histOf ops).length ≤ a + c.cap ∧ a % c.cap = s ∧
      ((run c ops).get s e).act = (cellOf (histOf ops) a e).act ∧
      ((run c ops).get s e).done =
        if (cellOf (histOf ops) a e).done && !(c.hto && (cellOf (histOf ops) a e).timeout) then 1 else 0 := by
  have hi := inv_run c ops
  obtain ⟨a, hw, rfl, _⟩ := domain_sound hi h
  obtain ⟨_, h2, _, h4, _⟩ := get_spec hi hw e
  exact ⟨a, hw.lt, hw.recent, rfl, h2, h4⟩

/-- The slot determines the add: two adds inside the window of the `capacity` most recent ones never share a
slot, so the `a` of `sample_sound` / `sample_done` is unique. -/
theorem window_slot_unique (cap L a a' : ℕ) (ha : a < L) (ha' : a' < L) (hr : L ≤ a + cap) (hr' : L ≤ a' + cap)
    (hs : a % cap = a' % cap) : a = a' :=
  RingIndex.mod_inj hs (Nat.lt_of_lt_of_le ha hr') (Nat.lt_of_lt_of_le ha' hr)

/-- **Soundness, element form**: when every `add` passed one entry per sub-environment (anything else makes
NumPy raise), the sampled transition *is* entry `e` of row `a` of the history. -/
theorem sample_sound_wf (c : Cfg) (ops : List Op) (hwf : ops.all (Op.wf c.nEnvs) = true) (s e : ℕ)
    (h : (s, e) ∈ (run c ops).domain) :
    ∃ (a : ℕ) (ha : a < (histOf ops).length) (he : e < ((histOf ops)[a]).length),
      (histOf ops).length ≤ a + c.cap ∧ a % c.cap = s ∧
      ((run c ops).get s e).obs = ((histOf ops)[a])[e].obs ∧
      ((run c ops).get s e).act = ((histOf ops)[a])[e].act ∧
      ((run c ops).get s e).rew = ((histOf ops)[a])[e].rew ∧
      (c.memopt = false → ((run c ops).get s e).next = ((histOf ops)[a])[e].next) := by
  obtain ⟨a, ha, hr, hs, he, _, h1, h2, h3, h4⟩ := sample_sound c ops s e h
  obtain ⟨he', hcell⟩ := cellOf_getElem (wf_histOf c.nEnvs ops hwf) ha he
  rw [hcell] at h1 h2 h3 h4
  exact ⟨a, ha, he', hr, hs, h1, h2, h3, h4⟩

/-- **Completeness**: every still-stored valid transition can be drawn — each of the `capacity` most recent
adds, each environment column; for the memory-optimised variant all of them except the oldest one of a full
ring, whose observation has been overwritten by the newest next observation. -/
theorem sample_complete (c : Cfg) (ops : List Op) (a e : ℕ) (ha : a < (histOf ops).length)
    (hr : (histOf ops).length ≤ a + c.cap) (he : e < c.nEnvs)
    (hm : c.memopt = true → (histOf ops).length < a + c.cap) :
    (a % c.cap, e) ∈ (run c ops).domain := by
  have hi := inv_run c ops
  rw [mem_domain, hi.cfg_eq]
  exact ⟨slot_complete hi ⟨ha, hr, hm⟩, he⟩

/-- **The memory-optimised variant never returns the overwritten slot**: when full, slot `pos` (it holds the
newest next observation, not the observation of add `adds - capacity`) is outside the domain. -/
theorem memopt_excludes_overwritten_slot (c : Cfg) (ops : List Op) (hm : c.memopt = true)
    (hf : (run c ops).full = true) (s e : ℕ) (h : (s, e) ∈ (run c ops).domain) :
    s ≠ (run c ops).pos ∧ s ≠ ((histOf ops).length - c.cap) % c.cap := by
  have hi := inv_run c ops
  obtain ⟨a, hw, rfl, _⟩ := domain_sound hi h
  -- add `a` is strictly inside the window, so its slot is not the cursor's; the oldest add's slot is the cursor's
  have key : a % c.cap ≠ (histOf ops).length % c.cap := RingIndex.mod_ne_of_lt hw.lt (hw.strict hm)
  refine ⟨hi.pos_eq ▸ key, ?_⟩
  rwa [← Nat.add_mod_right (_ - _), Nat.sub_add_cancel (of_decide_eq_true (hi.full_eq.symm.trans hf))]

/-- **Memory-optimised next observation (what the code returns)**: for every drawable pair, the observation is
right (`sample_sound`), and the next observation is the stored one for the newest add, else the *observation of
the following add* (the two share one array). -/
theorem memopt_next (c : Cfg) (ops : List Op) (hm : c.memopt = true) (s e : ℕ)
    (h : (s, e) ∈ (run c ops).domain) :
    ∃ a, a < (histOf ops).length ∧ (histOf ops).length < a + c.cap ∧ a % c.cap = s ∧
      ((run c ops).get s e).obs = (cellOf (histOf ops) a e).obs ∧
      ((run c ops).get s e).next =
        if a + 1 = (histOf ops).length then (cellOf (histOf ops) a e).next
        else (cellOf (histOf ops) (a + 1) e).obs := by
  have hi := inv_run c ops
  obtain ⟨a, hw, rfl, _⟩ := domain_sound hi h
  obtain ⟨h1, _, _, _, _, h6⟩ := get_spec hi hw e
  exact ⟨a, hw.lt, hw.strict hm, rfl, h1, h6 hm⟩

/-- **Memory-optimised soundness, partial**: under the chaining the variant presupposes of its caller
(`Chained`: unless a transition ended an episode, the next add starts from its next observation — what
off-policy collection does), every sampled transition that did *not* end an episode, and the newest one in any
case, carries its own next observation.
Missing for the full statement: episode-ending transitions followed by a later add, see
`memopt_done_next_counterexample`. -/
theorem sample_sound_memopt_partial (c : Cfg) (ops : List Op) (hm : c.memopt = true)
    (hch : Chained (histOf ops)) (s e : ℕ) (h : (s, e) ∈ (run c ops).domain) :
    ∃ a, a < (histOf ops).length ∧ (histOf ops).length < a + c.cap ∧ a % c.cap = s ∧
      ((cellOf (histOf ops) a e).done = false ∨ a + 1 = (histOf ops).length →
        ((run c ops).get s e).next = (cellOf (histOf ops) a e).next) := by
  obtain ⟨a, ha, hst, hs, _, hn⟩ := memopt_next c ops hm s e h
  refine ⟨a, ha, hst, hs, fun hcase => ?_⟩
  rw [hn]
  split
  · rfl
  · next hl => exact hch a e (Nat.lt_of_le_of_ne ha hl) (hcase.resolve_right hl)

/-- **The full statement is false of the memory-optimised variant** (finding K-C03-a): capacity 4, one
environment; add `(obs 1, next 2, done)` — an episode ends —, then add `(obs 10, next 11)` — the first step of
the next episode. The history is chained and well-formed, slot 0 can be drawn, its observation/action/reward are
those of add 0, but the returned next observation is `10` (the next episode's first observation), not `2`. -/
theorem memopt_done_next_counterexample :
    ¬ ∀ (c : Cfg) (ops : List Op), c.valid = true → ops.all (Op.wf c.nEnvs) = true → Chained (histOf ops) →
      ∀ s e, (s, e) ∈ (run c ops).domain →
        ∃ a, a < (histOf ops).length ∧ a % c.cap = s ∧
          ((run c ops).get s e).next = (cellOf (histOf ops) a e).next := by
  intro hall
  let c : Cfg := ⟨4, 1, true, false, false⟩
  let ops : List Op := [.add [⟨1, 2, 3, 4, true, false⟩], .add [⟨10, 11, 12, 13, false, false⟩]]
  have hch : Chained (histOf ops) := by
    intro a e ha hd
    obtain rfl : a = 0 := Nat.lt_one_iff.mp (Nat.lt_of_succ_lt_succ ha)
    cases e with
    | zero => exact absurd hd (by decide)
    | succ e => rfl
  obtain ⟨a, ha, hs, hn⟩ := hall c ops (by decide) (by decide) hch 0 0 (by decide)
  rw [show c.cap = 4 by decide] at hs
  obtain rfl : a = 0 := (Nat.mod_eq_of_lt (Nat.lt_trans ha (by decide : 2 < 4))).symm.trans hs
  exact absurd hn (by decide)

/-- **How many pairs can be drawn**: `min(adds, capacity) · n_envs` — every stored transition exactly once
(informally: with `sample_complete` and `window_slot_unique` the list `Buf.domain` then enumerates the valid pairs
without repetition) —
and `(capacity − 1) · n_envs` for a full memory-optimised ring. -/
theorem domain_length (c : Cfg) (ops : List Op) :
    (run c ops).domain.length =
      (if c.memopt = true ∧ c.cap ≤ (histOf ops).length then c.cap - 1 else min (histOf ops).length c.cap) * c.nEnvs := by
  have hi := inv_run c ops
  rw [Lemmas.Replay.domain_length, sampleSlots_length, if_congr hi.rot_iff rfl rfl, hi.cfg_eq, size_eq]

/-- **When nothing can be sampled** (`np.random.randint` raises): exactly when no add happened since the last
reset, or the buffer is memory-optimised with capacity 1 (its only slot is always the overwritten one). -/
theorem empty_sample_rejected (c : Cfg) (ops : List Op) :
    (run c ops).table = none ↔ ((histOf ops).length = 0 ∨ (c.memopt = true ∧ c.cap = 1)) :=
  table_eq_none.trans (range_empty_iff (inv_run c ops))

/-- **reset() forgets everything**: right after a `reset`, whatever was added before, `size()` is 0 and nothing
can be sampled; and (by `sample_sound`, whose history `histOf` restarts at the reset) nothing added before the
reset is ever returned later, although the arrays still hold it. -/
theorem reset_forgets (c : Cfg) (ops : List Op) :
    histOf (ops ++ [.reset]) = [] ∧ (run c (ops ++ [.reset])).size = 0 ∧ (run c (ops ++ [.reset])).table = none := by
  have hH : histOf (ops ++ [.reset]) = [] := by rw [histOf, List.foldl_append]; rfl
  refine ⟨hH, ?_, ?_⟩
  · rw [size_eq, hH]; exact Nat.zero_min _
  · rw [empty_sample_rejected, hH]; exact Or.inl rfl

/-- **`sample` only gathers pairs of the domain**: for raw random draws `(k, e)`, the result has one entry per
draw, entry `i` is `_get_samples` at `(slotOfDraw k_i, e_i)`, and that pair is in the domain the theorems above
speak about. -/
theorem sample_in_domain (c : Cfg) (ops : List Op) (draws : List (ℕ × ℕ)) (out : List Sampled)
    (h : (run c ops).sample draws = some out) :
    out = draws.map (fun d => (run c ops).get ((run c ops).slotOfDraw d.1) d.2) ∧
    ∀ d ∈ draws, ((run c ops).slotOfDraw d.1, d.2) ∈ (run c ops).domain :=
  sample_some h

/-- **Normalising at sampling time** (`sample(env=VecNormalize)`) touches observations, next observations and
rewards of that same single stored transition, and nothing else. -/
theorem sample_norm_sound {α : Type} (fo fr : ℕ → α) (c : Cfg) (ops : List Op) (s e : ℕ)
    (h : (s, e) ∈ (run c ops).domain) :
    ∃ a, a < (histOf ops).length ∧ (histOf ops).length ≤ a + c.cap ∧ a % c.cap = s ∧
      (((run c ops).get s e).normalize fo fr).obs = fo (cellOf (histOf ops) a e).obs ∧
      (((run c ops).get s e).normalize fo fr).rew = fr (cellOf (histOf ops) a e).rew ∧
      (((run c ops).get s e).normalize fo fr).act = (cellOf (histOf ops) a e).act ∧
      (((run c ops).get s e).normalize fo fr).done = ((run c ops).get s e).done ∧
      (c.memopt = false → (((run c ops).get s e).normalize fo fr).next = fo (cellOf (histOf ops) a e).next) := by
  obtain ⟨a, ha, hr, hs, _, _, h1, h2, h3, h4⟩ := sample_sound c ops s e h
  exact ⟨a, ha, hr, hs, congrArg fo h1, congrArg fr h3, h2, rfl, fun hm => congrArg fo (h4 hm)⟩

/-! ### Non-vacuity: the hypotheses above are met by concrete non-trivial data
(`exCfg`/`exOps`: capacity `7 // 2 = 3`, two environments, 5 adds — wraps —, standard variant with timeout handling;
`exMem`/`exMemOps`: memory-optimised, capacity 3, full after 4 chained adds; both defined in `Lemmas/Replay.lean`) -/

example : exCfg.cap = 3 ∧ exCfg.valid = true := by decide +kernel
example : exOps.all (Op.wf exCfg.nEnvs) = true := by decide +kernel
example : (run exCfg exOps).pos = 2 ∧ (run exCfg exOps).full = true ∧ (run exCfg exOps).size = 3 := by decide +kernel
/-- `sample_sound` / `sample_done` hypotheses: slot 0 now holds add 3 (a timeout ⇒ done masked to 0) -/
example : (0, 0) ∈ (run exCfg exOps).domain ∧ (run exCfg exOps).get 0 0 = ⟨31, 32, 33, 34, 0⟩ := by decide +kernel
/-- slot 1, env 0 holds add 4 (not done); slot 2 env 1 holds add 2 (a true termination ⇒ done 1) -/
example : (run exCfg exOps).get 1 0 = ⟨41, 42, 43, 44, 0⟩ ∧ (run exCfg exOps).get 2 1 = ⟨25, 26, 27, 28, 1⟩ := by
  decide +kernel
/-- `sample_complete` hypotheses: add 2 is still stored (5 ≤ 2 + 3), add 1 is not -/
example : (2 % exCfg.cap, 1) ∈ (run exCfg exOps).domain := by decide +kernel
example : (run exCfg exOps).domain.length = 6 := by decide +kernel

example : exMem.valid = true ∧ (run exMem exMemOps).full = true ∧ (run exMem exMemOps).pos = 1 := by decide +kernel
example : (run exMem exMemOps).sampleSlots = [2, 0] := by decide +kernel
example : (run exMem exMemOps).get 2 0 = ⟨7, 8, 103, 203, 0⟩ ∧ (run exMem exMemOps).get 0 0 = ⟨8, 9, 104, 204, 0⟩ := by
  decide +kernel
/-- reset: nothing can be sampled until the next add, then only that add -/
example : (run exCfg (exOps ++ [.reset])).table = none := by decide +kernel
example : (run exCfg (exOps ++ [.reset, .add [⟨91, 92, 93, 94, true, false⟩, ⟨95, 96, 97, 98, false, false⟩]])).domain
    = [(0, 0), (0, 1)] := by decide +kernel
/-- memory-optimised with capacity 1 can never be sampled -/
example : (run ⟨1, 1, true, false, false⟩ [.add [⟨1, 2, 3, 4, false, false⟩]]).table = none := by decide +kernel
/-- `sample_in_domain` hypothesis -/
example : ((run exCfg exOps).sample [(0, 1), (2, 0)]).isSome = true := by decide +kernel

end SB3Verif.C03
