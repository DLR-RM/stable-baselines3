/-
Helper lemmas for C07 (model: `SB3Verif/Model/Objective.lean`).

The ℝ instance of `OScalar` lives here: the theorems of `Props/C07.lean` are statements about the *same*
generic definitions the driver executes at `Float`, instantiated at ℝ with Mathlib's `Real.exp`, `Real.sqrt`.

Every loss is a linear combination of batch means.  `hasDerivAt_meanMap_set` turns the derivative of a mean in
one output of one sample into the derivative of the per-sample term (over `B`); the per-sample terms are built
from `min`/`max`/`clamp` against constants, squares and the Huber pieces.
-/
import SB3Verif.Model.Objective
import Mathlib.Analysis.Complex.Exponential
import Mathlib.Analysis.Calculus.Deriv.Mul
import Mathlib.Analysis.Calculus.Deriv.Add
import Mathlib.Analysis.Real.Sqrt

namespace SB3Verif.Lemmas.Objective

open SB3Verif.Objective
open Filter Topology

/-- The ℝ instance: Mathlib's real functions; `≤` is decided classically. -/
noncomputable instance instOScalarReal : OScalar ℝ where
  ofNat n := (n : ℝ)
  exp := Real.exp
  sqrt := Real.sqrt
  le a b := decide (a ≤ b)

@[simp] theorem ofNat_real (n : ℕ) : (OScalar.ofNat n : ℝ) = (n : ℝ) := rfl
@[simp] theorem exp_real (x : ℝ) : OScalar.exp x = Real.exp x := rfl
@[simp] theorem sqrt_real (x : ℝ) : OScalar.sqrt x = Real.sqrt x := rfl
@[simp] theorem le_real (a b : ℝ) : OScalar.le a b = decide (a ≤ b) := rfl

@[simp] theorem zero_real : (zero : ℝ) = 0 := Nat.cast_zero
@[simp] theorem one_real : (one : ℝ) = 1 := Nat.cast_one
@[simp] theorem two_real : (two : ℝ) = 2 := Nat.cast_ofNat
@[simp] theorem half_real : (half : ℝ) = 1 / 2 := congrArg₂ (· / ·) Nat.cast_one Nat.cast_ofNat
@[simp] theorem eps8_real : (eps8 : ℝ) = 1 / 100000000 := congrArg₂ (· / ·) Nat.cast_one Nat.cast_ofNat
@[simp] theorem eps6_real : (eps6 : ℝ) = 1 / 1000000 := congrArg₂ (· / ·) Nat.cast_one Nat.cast_ofNat

@[simp] theorem sum_real (l : List ℝ) : SB3Verif.Objective.sum l = l.sum :=
  congrArg (List.foldr (· + ·) · l) Nat.cast_zero

@[simp] theorem max'_real (a b : ℝ) : max' a b = max a b := by
  simp only [max', le_real, decide_eq_true_eq, max_def]

@[simp] theorem min'_real (a b : ℝ) : min' a b = min a b := by
  simp only [min', le_real, decide_eq_true_eq, min_def]

@[simp] theorem abs'_real (x : ℝ) : abs' x = |x| := by
  simp only [abs', le_real, ofNat_real, Nat.cast_zero, decide_eq_true_eq]
  split_ifs with h
  · exact (abs_of_nonneg h).symm
  · exact (abs_of_neg (lt_of_not_ge h)).symm

@[simp] theorem sq_real (x : ℝ) : SB3Verif.Objective.sq x = x * x := rfl

@[simp] theorem clamp_real (lo hi x : ℝ) : clamp lo hi x = min (max x lo) hi := by
  rw [clamp, min'_real, max'_real]

theorem meanMap_real {σ : Type} (f : σ → ℝ) (S : List σ) :
    meanMap f S = (S.map f).sum / (S.length : ℝ) := by
  rw [meanMap, sum_real, ofNat_real]

@[simp] theorem ratio_real (x o : ℝ) : ratio x o = Real.exp (x - o) := rfl

theorem hasDerivAt_of_eq {f g : ℝ → ℝ} {d d' x : ℝ} (h : HasDerivAt g d' x) (hf : ∀ y, f y = g y)
    (hd : d = d') : HasDerivAt f d x := by
  have e : f = g := funext hf
  subst e; subst hd; exact h

theorem hasDerivAt_zero_of_const {f : ℝ → ℝ} {x₀ : ℝ} (h : ∀ x, f x = f x₀) : HasDerivAt f 0 x₀ :=
  hasDerivAt_of_eq (hasDerivAt_const x₀ (f x₀)) h rfl

theorem hasDerivAt_min_const {f : ℝ → ℝ} {f' x₀ c : ℝ} (hf : HasDerivAt f f' x₀) (hc : f x₀ ≠ c) :
    HasDerivAt (fun x => min (f x) c) (if f x₀ ≤ c then f' else 0) x₀ := by
  rcases lt_or_gt_of_ne hc with h | h
  · rw [if_pos h.le]
    exact hf.congr_of_eventuallyEq
      ((hf.continuousAt.eventually_lt_const h).mono fun x hx => min_eq_left hx.le)
  · rw [if_neg h.not_ge]
    exact (hasDerivAt_const x₀ c).congr_of_eventuallyEq
      ((hf.continuousAt.eventually_const_lt h).mono fun x hx => min_eq_right hx.le)

theorem hasDerivAt_max_const {f : ℝ → ℝ} {f' x₀ c : ℝ} (hf : HasDerivAt f f' x₀) (hc : f x₀ ≠ c) :
    HasDerivAt (fun x => max (f x) c) (if c ≤ f x₀ then f' else 0) x₀ := by
  rcases lt_or_gt_of_ne hc with h | h
  · rw [if_neg h.not_ge]
    exact (hasDerivAt_const x₀ c).congr_of_eventuallyEq
      ((hf.continuousAt.eventually_lt_const h).mono fun x hx => max_eq_right hx.le)
  · rw [if_pos h.le]
    exact hf.congr_of_eventuallyEq
      ((hf.continuousAt.eventually_const_lt h).mono fun x hx => max_eq_left hx.le)

/-- `lo = hi` is allowed: the clamp is then constant and the condition in the derivative is never met -/
theorem hasDerivAt_clamp {f : ℝ → ℝ} {f' x₀ lo hi : ℝ} (hf : HasDerivAt f f' x₀) (h : lo ≤ hi)
    (hlo : f x₀ ≠ lo) (hhi : f x₀ ≠ hi) :
    HasDerivAt (fun x => min (max (f x) lo) hi) (if lo ≤ f x₀ ∧ f x₀ ≤ hi then f' else 0) x₀ := by
  rcases lt_or_gt_of_ne hlo with h1 | h1
  · rw [if_neg fun c => h1.not_ge c.1]
    exact (hasDerivAt_const x₀ lo).congr_of_eventuallyEq
      ((hf.continuousAt.eventually_lt_const h1).mono fun x hx =>
        (congrArg (min · hi) (max_eq_right hx.le)).trans (min_eq_left h))
  · rcases lt_or_gt_of_ne hhi with h2 | h2
    · rw [if_pos ⟨h1.le, h2.le⟩]
      exact hf.congr_of_eventuallyEq
        (((hf.continuousAt.eventually_const_lt h1).and
          (hf.continuousAt.eventually_lt_const h2)).mono fun x hx =>
            (congrArg (min · hi) (max_eq_left hx.1.le)).trans (min_eq_left hx.2.le))
    · rw [if_neg fun c => h2.not_ge c.2]
      exact (hasDerivAt_const x₀ hi).congr_of_eventuallyEq
        ((hf.continuousAt.eventually_const_lt h2).mono fun x hx =>
          (congrArg (min · hi) (max_eq_left (h.trans hx.le))).trans (min_eq_right hx.le))

theorem hasDerivAt_mul_self {f : ℝ → ℝ} {f' x₀ : ℝ} (hf : HasDerivAt f f' x₀) :
    HasDerivAt (fun x => f x * f x) (2 * f x₀ * f') x₀ :=
  (hf.fun_mul hf).congr_deriv (by rw [two_mul, add_mul, mul_comm f'])

theorem meanMap_set {σ : Type} (f : σ → ℝ) (S : List σ) (j : ℕ) (hj : j < S.length) (s : σ) :
    meanMap f (S.set j s) = ((S.map f).sum + (-f S[j] + f s)) / (S.length : ℝ) := by
  rw [meanMap_real, List.map_set, List.sum_set', dif_pos (by rw [List.length_map]; exact hj), List.getElem_map,
    List.length_set]

theorem meanMap_set_eq {σ : Type} (f : σ → ℝ) (S : List σ) (j : ℕ) (hj : j < S.length) (s : σ)
    (h : f s = f S[j]) : meanMap f (S.set j s) = meanMap f S := by
  rw [meanMap_set f S j hj, meanMap_real, h, neg_add_cancel, add_zero]

theorem meanMap_set_lt {σ : Type} (f : σ → ℝ) (S : List σ) (j : ℕ) (hj : j < S.length) {s s' : σ}
    (h : f s < f s') : meanMap f (S.set j s) < meanMap f (S.set j s') := by
  rw [meanMap_set f S j hj, meanMap_set f S j hj]
  exact div_lt_div_of_pos_right ((add_lt_add_iff_left _).mpr ((add_lt_add_iff_left _).mpr h))
    (Nat.cast_pos.mpr (Nat.zero_lt_of_lt hj))

theorem hasDerivAt_meanMap_set {σ : Type} (f : σ → ℝ) (S : List σ) (j : ℕ) (hj : j < S.length)
    (upd : ℝ → σ) {d d' x₀ : ℝ} (h : HasDerivAt (fun x => f (upd x)) d x₀) (hd : d' = d / (S.length : ℝ)) :
    HasDerivAt (fun x => meanMap f (S.set j (upd x))) d' x₀ :=
  hasDerivAt_of_eq (((h.const_add (-f S[j])).const_add (S.map f).sum).div_const (S.length : ℝ))
    (fun x => meanMap_set f S j hj (upd x)) hd

theorem surr_real (ε A r : ℝ) :
    surr ε A r = min (A * r) (A * min (max r (1 - ε)) (1 + ε)) := by
  rw [surr, min'_real, clamp_real, one_real]

theorem surrGrad_real (ε A o x : ℝ) :
    surrGrad ε A o x =
      if A * Real.exp (x - o) ≤ A * min (max (Real.exp (x - o)) (1 - ε)) (1 + ε)
      then A * Real.exp (x - o) else 0 := by
  simp only [surrGrad, ratio_real, le_real, clamp_real, one_real, zero_real, decide_eq_true_eq]

theorem one_sub_le_one_add {ε : ℝ} (hε : 0 ≤ ε) : 1 - ε ≤ 1 + ε :=
  (sub_le_self 1 hε).trans (le_add_of_nonneg_right hε)

theorem surr_of_nonneg {ε A : ℝ} (hA : 0 ≤ A) (r : ℝ) : surr ε A r = A * min r (1 + ε) := by
  rw [surr_real, ← mul_min_of_nonneg _ _ hA, ← min_assoc, min_eq_left (le_max_left r _)]

theorem surr_of_nonpos {ε A : ℝ} (hε : 0 ≤ ε) (hA : A ≤ 0) (r : ℝ) : surr ε A r = A * max r (1 - ε) := by
  have e : max r (min (max r (1 - ε)) (1 + ε)) = max r (1 - ε) := by
    rw [max_min_distrib_left, ← max_assoc, max_self, min_eq_left (max_le_max_left r (one_sub_le_one_add hε))]
  rw [surr_real]
  exact (antitone_mul_left hA).map_max.symm.trans (congrArg (A * ·) e)

theorem surrGrad_of_pos {ε A : ℝ} (hA : 0 < A) (o x : ℝ) :
    surrGrad ε A o x = A * if Real.exp (x - o) ≤ 1 + ε then Real.exp (x - o) else 0 := by
  rw [surrGrad_real, mul_ite, mul_zero]
  exact if_congr ((mul_le_mul_iff_right₀ hA).trans
    ⟨fun h => h.trans (min_le_right _ _), fun h => le_min (le_max_left _ _) h⟩) rfl rfl

theorem surrGrad_of_neg {ε A : ℝ} (hε : 0 ≤ ε) (hA : A < 0) (o x : ℝ) :
    surrGrad ε A o x = A * if 1 - ε ≤ Real.exp (x - o) then Real.exp (x - o) else 0 := by
  rw [surrGrad_real, mul_ite, mul_zero]
  refine if_congr ((mul_le_mul_left_of_neg hA).trans ⟨fun h => ?_, fun h => ?_⟩) rfl rfl
  · by_contra hlt
    rw [max_eq_right (le_of_not_ge hlt), min_eq_left (one_sub_le_one_add hε)] at h
    exact hlt h
  · exact min_le_of_left_le (max_le le_rfl h)

theorem valuePred_hasDerivAt (cv : Option ℝ) (s : PGSample ℝ)
    (hk : ∀ c, cv = some c → 0 ≤ c ∧ s.value - s.oldValue ≠ c ∧ s.value - s.oldValue ≠ -c) :
    HasDerivAt (fun v => valuePred cv { s with value := v }) (valuePredGrad cv s) s.value := by
  cases cv with
  | none => exact hasDerivAt_of_eq (hasDerivAt_id' s.value) (fun _ => rfl) one_real
  | some c =>
    obtain ⟨hc, hne1, hne2⟩ := hk c rfl
    refine hasDerivAt_of_eq
      ((hasDerivAt_clamp ((hasDerivAt_id' s.value).sub_const s.oldValue) (neg_le_self hc) hne2 hne1).const_add
        s.oldValue) (fun v => congrArg (s.oldValue + ·) (clamp_real _ _ _)) ?_
    simp only [valuePredGrad, le_real, Bool.and_eq_true, decide_eq_true_eq, one_real, zero_real]

theorem valueTerm_hasDerivAt (cv : Option ℝ) (s : PGSample ℝ)
    (hk : ∀ c, cv = some c → 0 ≤ c ∧ s.value - s.oldValue ≠ c ∧ s.value - s.oldValue ≠ -c) :
    HasDerivAt (fun v => valueTerm cv { s with value := v })
      (-(2 * (s.ret - valuePred cv s) * valuePredGrad cv s)) s.value :=
  (hasDerivAt_mul_self ((valuePred_hasDerivAt cv s hk).const_sub s.ret)).congr_deriv (mul_neg _ _)

theorem smoothL1_real (x : ℝ) : smoothL1 x = if 1 ≤ |x| then |x| - 1 / 2 else 1 / 2 * x * x := by
  simp only [smoothL1, le_real, one_real, abs'_real, half_real, decide_eq_true_eq]

theorem smoothL1Grad_real (x : ℝ) : smoothL1Grad x = min (max x (-1)) 1 := by
  rw [smoothL1Grad, clamp_real, one_real]

-- the three pieces, on closed regions that overlap at `±1` (so that two of them apply at each junction)
theorem smoothL1_of_one_le {x : ℝ} (h : 1 ≤ x) : smoothL1 x = x - 1 / 2 := by
  rw [smoothL1_real, abs_of_nonneg (zero_le_one.trans h), if_pos h]

theorem smoothL1_of_le_neg_one {x : ℝ} (h : x ≤ -1) : smoothL1 x = -x - 1 / 2 := by
  rw [smoothL1_real, abs_of_nonpos (h.trans (by norm_num)), if_pos (le_neg_of_le_neg h)]

theorem smoothL1_of_abs_le_one {x : ℝ} (h1 : -1 ≤ x) (h2 : x ≤ 1) : smoothL1 x = 1 / 2 * x * x := by
  rw [smoothL1_real]
  split_ifs with h
  · have e : |x| = 1 := le_antisymm (abs_le.mpr ⟨h1, h2⟩) h
    rw [mul_assoc, ← abs_mul_abs_self x, e]; norm_num
  · rfl

theorem hasDerivAt_glue {f g h : ℝ → ℝ} {a d : ℝ}
    (hg : HasDerivAt g d a) (hh : HasDerivAt h d a)
    (el : ∀ᶠ x in 𝓝 a, x ≤ a → f x = g x) (er : ∀ᶠ x in 𝓝 a, a ≤ x → f x = h x) :
    HasDerivAt f d a := by
  have l : HasDerivWithinAt f d (Set.Iic a) a :=
    hg.hasDerivWithinAt.congr_of_eventuallyEq (eventually_nhdsWithin_iff.mpr el) (el.self_of_nhds le_rfl)
  have r : HasDerivWithinAt f d (Set.Ici a) a :=
    hh.hasDerivWithinAt.congr_of_eventuallyEq (eventually_nhdsWithin_iff.mpr er) (er.self_of_nhds le_rfl)
  have u := l.union r
  rwa [Set.Iic_union_Ici, hasDerivWithinAt_univ] at u

/-- The Huber loss is differentiable **everywhere** (also at `|x| = 1`), with derivative `clamp x (-1) 1`. -/
theorem smoothL1_hasDerivAt (x₀ : ℝ) : HasDerivAt smoothL1 (smoothL1Grad x₀) x₀ := by
  have hlin : ∀ a : ℝ, HasDerivAt (fun y : ℝ => y - 1 / 2) 1 a := fun a => (hasDerivAt_id' a).sub_const _
  have hneg : ∀ a : ℝ, HasDerivAt (fun y : ℝ => -y - 1 / 2) (-1) a := fun a => (hasDerivAt_neg' a).sub_const _
  have hsq : ∀ a : ℝ, HasDerivAt (fun y : ℝ => 1 / 2 * y * y) a a := fun a =>
    hasDerivAt_of_eq ((hasDerivAt_mul_self (hasDerivAt_id' a)).const_mul (1 / 2 : ℝ)) (fun y => mul_assoc _ _ _)
      (by rw [mul_one, ← mul_assoc, one_div, inv_mul_cancel₀ two_ne_zero, one_mul])
  have h11 : (-1 : ℝ) < 1 := by norm_num
  rw [smoothL1Grad_real]
  rcases lt_trichotomy x₀ (-1) with h | h | h
  · rw [max_eq_right h.le, min_eq_left h11.le]
    exact (hneg x₀).congr_of_eventuallyEq ((eventually_lt_nhds h).mono fun x hx => smoothL1_of_le_neg_one hx.le)
  · subst h
    rw [max_self, min_eq_left h11.le]
    exact hasDerivAt_glue (hneg _) (hsq (-1))
      (Eventually.of_forall fun x hx => smoothL1_of_le_neg_one hx)
      ((eventually_lt_nhds h11).mono fun x hx1 hx => smoothL1_of_abs_le_one hx hx1.le)
  · rw [max_eq_left h.le]
    rcases lt_trichotomy x₀ 1 with h' | h' | h'
    · rw [min_eq_left h'.le]
      exact (hsq x₀).congr_of_eventuallyEq
        (((eventually_gt_nhds h).and (eventually_lt_nhds h')).mono fun x hx =>
          smoothL1_of_abs_le_one hx.1.le hx.2.le)
    · subst h'
      rw [min_self]
      exact hasDerivAt_glue (hsq 1) (hlin _)
        ((eventually_gt_nhds h11).mono fun x hx1 hx => smoothL1_of_abs_le_one hx1.le hx)
        (Eventually.of_forall fun x hx => smoothL1_of_one_le hx)
    · rw [min_eq_right h'.le]
      exact (hlin x₀).congr_of_eventuallyEq ((eventually_gt_nhds h').mono fun x hx => smoothL1_of_one_le hx.le)

/-- per-sample entropy term: the entropy itself, or its estimate `-logp` -/
def entTerm (he : Bool) (s : PGSample ℝ) : ℝ := if he then s.entropy else -s.logp

theorem entropyLoss_eq (he : Bool) (S : List (PGSample ℝ)) : entropyLoss he S = -(meanMap (entTerm he) S) := by
  cases he <;> rfl

theorem ppoLoss_eq (c : PGConfig ℝ) (S : List (PGSample ℝ)) :
    ppoLoss c S = -(meanMap (surrTerm c.clip) S) + c.entCoef * -(meanMap (entTerm c.hasEntropy) S)
      + c.vfCoef * meanMap (valueTerm c.clipVf) S := by
  rw [ppoLoss, entropyLoss_eq]; rfl

theorem a2cLoss_eq (c : PGConfig ℝ) (S : List (PGSample ℝ)) :
    a2cLoss c S = -(meanMap (fun s => s.adv * s.logp) S) + c.entCoef * -(meanMap (entTerm c.hasEntropy) S)
      + c.vfCoef * meanMap (valueTerm none) S := by
  rw [a2cLoss, entropyLoss_eq]; rfl

/-- PPO and A2C share the shape `-(mean P) + ec · -(mean E) + vc · mean V` (`ppoLoss_eq`, `a2cLoss_eq`); varying one
output of sample `j` through `upd`, the derivative is the same combination of the three per-sample derivatives over `B`. -/
theorem pgLoss_hasDerivAt {L : List (PGSample ℝ) → ℝ} {P E V : PGSample ℝ → ℝ} {ec vc : ℝ}
    (hL : ∀ S, L S = -(meanMap P S) + ec * -(meanMap E S) + vc * meanMap V S)
    (S : List (PGSample ℝ)) (j : ℕ) (hj : j < S.length) (upd : ℝ → PGSample ℝ) {p e v d x₀ : ℝ}
    (hp : HasDerivAt (fun x => P (upd x)) p x₀) (he : HasDerivAt (fun x => E (upd x)) e x₀)
    (hv : HasDerivAt (fun x => V (upd x)) v x₀)
    (hd : d = -(p / (S.length : ℝ)) + ec * -(e / (S.length : ℝ)) + vc * (v / (S.length : ℝ))) :
    HasDerivAt (fun x => L (S.set j (upd x))) d x₀ :=
  hasDerivAt_of_eq
    (((hasDerivAt_meanMap_set P S j hj upd hp rfl).fun_neg.fun_add
      ((hasDerivAt_meanMap_set E S j hj upd he rfl).fun_neg.const_mul ec)).fun_add
      ((hasDerivAt_meanMap_set V S j hj upd hv rfl).const_mul vc))
    (fun _ => hL _) hd

theorem entTerm_hasDerivAt_logp (he : Bool) (s : PGSample ℝ) :
    HasDerivAt (fun x => entTerm he { s with logp := x }) (if he then 0 else -1) s.logp := by
  cases he
  · exact hasDerivAt_neg' s.logp
  · exact hasDerivAt_zero_of_const fun _ => rfl

theorem entTerm_hasDerivAt_entropy (he : Bool) (s : PGSample ℝ) :
    HasDerivAt (fun x => entTerm he { s with entropy := x }) (if he then 1 else 0) s.entropy := by
  cases he
  · exact hasDerivAt_zero_of_const fun _ => rfl
  · exact hasDerivAt_id' s.entropy

theorem entLogpCot_real (c : PGConfig ℝ) (B : ℕ) :
    entLogpCot c B = if c.hasEntropy then 0 else c.entCoef / (B : ℝ) := by
  rw [entLogpCot]
  cases c.hasEntropy
  · simp only [Bool.false_eq_true, if_false, one_real, ofNat_real, mul_one_div]
  · simp only [if_true, zero_real, mul_zero]

theorem getD_set_self (l : List ℝ) (k : ℕ) (hk : k < l.length) (x d : ℝ) : (l.set k x).getD k d = x := by
  rw [List.getD_eq_getElem?_getD, List.getElem?_set_self hk]; rfl

theorem getD_set_ne (l : List ℝ) (k k' : ℕ) (h : k' ≠ k) (x d : ℝ) : (l.set k x).getD k' d = l.getD k' d := by
  rw [List.getD_eq_getElem?_getD, List.getElem?_set_ne (Ne.symm h), List.getD_eq_getElem?_getD]

/-- entry `(j, k)` of a table given row by row as mapped `List.range`s (the per-critic cotangents) -/
theorem getD_getElem_map_range {σ : Type} (n : σ → ℕ) (f : σ → ℕ → ℝ) (S : List σ) (j : ℕ)
    (h : j < (S.map fun s => (List.range (n s)).map (f s)).length) {k : ℕ}
    (hk : k < n (S[j]'(List.length_map _ ▸ h))) :
    ((S.map fun s => (List.range (n s)).map (f s))[j]).getD k 0 = f (S[j]'(List.length_map _ ▸ h)) k := by
  rw [List.getElem_map, List.getD_eq_getElem?_getD, List.getElem?_map, List.getElem?_range hk]; rfl

theorem mseK_hasDerivAt (S : List (CriticSample ℝ)) (j : ℕ) (hj : j < S.length) (k : ℕ)
    (y : CriticSample ℝ → ℝ) (hkq : k < S[j].qs.length) (k' : ℕ)
    (hy : ∀ x, y { S[j] with qs := S[j].qs.set k x } = y S[j]) :
    HasDerivAt (fun x => mseK y k' (S.set j { S[j] with qs := S[j].qs.set k x }))
      (if k' = k then 2 * (S[j].qs.getD k 0 - y S[j]) / (S.length : ℝ) else 0) (S[j].qs.getD k 0) := by
  by_cases hk : k' = k
  · subst hk
    rw [if_pos rfl]
    exact hasDerivAt_meanMap_set (fun s => SB3Verif.Objective.sq (s.qs.getD k' zero - y s)) S j hj
      (fun x => { S[j] with qs := S[j].qs.set k' x })
      (hasDerivAt_of_eq (hasDerivAt_mul_self ((hasDerivAt_id' _).sub_const (y S[j])))
        (fun x => congrArg SB3Verif.Objective.sq (congrArg₂ (· - ·) (getD_set_self _ _ hkq x zero) (hy x)))
        (mul_one _).symm) rfl
  · rw [if_neg hk]
    exact hasDerivAt_of_eq (hasDerivAt_const _ (mseK y k' S))
      (fun x => meanMap_set_eq _ S j hj _
        (congrArg SB3Verif.Objective.sq (congrArg₂ (· - ·) (getD_set_ne _ _ _ hk x zero) (hy x)))) rfl

theorem criticSum_hasDerivAt (S : List (CriticSample ℝ)) (j : ℕ) (hj : j < S.length) (k : ℕ)
    (y : CriticSample ℝ → ℝ) (nc : ℕ) (hk : k < nc) (hkq : k < S[j].qs.length)
    (hy : ∀ x, y { S[j] with qs := S[j].qs.set k x } = y S[j]) :
    HasDerivAt (fun x => SB3Verif.Objective.sum ((List.range nc).map fun k' =>
        mseK y k' (S.set j { S[j] with qs := S[j].qs.set k x })))
      (2 * (S[j].qs.getD k 0 - y S[j]) / (S.length : ℝ)) (S[j].qs.getD k 0) :=
  -- `∑ k' ∈ Finset.range nc, _` unfolds to the sum of the mapped `List.range nc`
  hasDerivAt_of_eq
    (HasDerivAt.fun_sum (u := Finset.range nc) fun k' _ => mseK_hasDerivAt S j hj k y hkq k' hy)
    (fun _ => sum_real _)
    ((Finset.sum_ite_eq' (Finset.range nc) k fun _ => 2 * (S[j].qs.getD k 0 - y S[j]) / (S.length : ℝ)).trans
      (if_pos (Finset.mem_range.mpr hk))).symm

theorem sacAlphaLoss_eq (H : ℝ) (lps : List ℝ) (logα : ℝ) :
    sacAlphaLoss H lps logα = logα * sacAlphaCot H lps := by
  rw [sacAlphaLoss, sacAlphaCot, meanMap_real, meanMap_real, List.sum_map_mul_left, mul_neg, mul_div_assoc]

theorem clipCoef_real (m n : ℝ) : clipCoef m n = min 1 (m / (n + 1 / 1000000)) := by
  rw [clipCoef, min'_real, one_real, eps6_real]

theorem l2norm_real (g : List ℝ) : l2norm g = Real.sqrt (g.map fun x => x * x).sum := by
  rw [l2norm, sqrt_real, sum_real]; rfl

theorem l2norm_nonneg (g : List ℝ) : 0 ≤ l2norm g := by
  rw [l2norm_real]; exact Real.sqrt_nonneg _

theorem sum_sq_nonneg (g : List ℝ) : 0 ≤ (g.map fun x => x * x).sum := by
  refine List.sum_nonneg fun x hx => ?_
  obtain ⟨a, _, rfl⟩ := List.mem_map.mp hx
  exact mul_self_nonneg a

theorem sum_sq_map_mul (c : ℝ) (g : List ℝ) :
    ((g.map fun x => x * c).map fun x => x * x).sum = c * c * (g.map fun x => x * x).sum := by
  induction g with
  | nil => simp
  | cons a g ih => simp only [List.map_cons, List.sum_cons, ih]; ring

theorem l2norm_map_mul (c : ℝ) (hc : 0 ≤ c) (g : List ℝ) :
    l2norm (g.map fun x => x * c) = c * l2norm g := by
  rw [l2norm_real, l2norm_real, sum_sq_map_mul, Real.sqrt_mul (mul_self_nonneg c), Real.sqrt_mul_self hc]

theorem eps6_pos : (0 : ℝ) < 1 / 1000000 := by norm_num

theorem clipCoef_nonneg (m n : ℝ) (hm : 0 ≤ m) (hn : 0 ≤ n) : 0 ≤ clipCoef m n := by
  rw [clipCoef_real]
  exact le_min zero_le_one (div_nonneg hm (add_nonneg hn eps6_pos.le))

theorem clipCoef_le_one (m n : ℝ) : clipCoef m n ≤ 1 := by
  rw [clipCoef_real]; exact min_le_left _ _

theorem clipGradNorm_eq (m : ℝ) (g : List ℝ) :
    clipGradNorm m g = g.map fun x => x * clipCoef m (l2norm g) := rfl

theorem clip_id_of_small (m : ℝ) (g : List ℝ) (h : l2norm g + 1 / 1000000 ≤ m) : clipGradNorm m g = g := by
  have hpos : 0 < l2norm g + 1 / 1000000 := add_pos_of_nonneg_of_pos (l2norm_nonneg g) eps6_pos
  rw [clipGradNorm_eq, clipCoef_real, min_eq_left ((one_le_div hpos).mpr h)]
  simp only [mul_one, List.map_id']

theorem tdTarget_real (γ r d b : ℝ) : tdTarget γ r d b = r + (1 - d) * γ * b := by
  rw [tdTarget, one_real]

theorem td3NextAction_real (c π n : ℝ) :
    td3NextAction c π n = min (max (π + min (max n (-c)) c) (-1)) 1 := by
  rw [td3NextAction, clamp_real, clamp_real, one_real]

theorem sum_map_sub_div (m d : ℝ) (l : List ℝ) :
    (l.map fun a => (a - m) / d).sum = (l.sum - (l.length : ℝ) * m) / d := by
  induction l with
  | nil => simp
  | cons a l ih => rw [List.map_cons, List.sum_cons, ih, List.sum_cons, List.length_cons, Nat.cast_succ]; ring

theorem mean_real (l : List ℝ) : mean l = l.sum / (l.length : ℝ) := by
  rw [mean, meanMap_real, List.map_id']

theorem minList_cons (x : ℝ) (xs : List ℝ) : minList (x :: xs) = xs.foldl min x :=
  congrArg (fun f => xs.foldl f x) (funext₂ min'_real)

theorem min?_eq_minList (l : List ℝ) (h : l ≠ []) : l.min? = some (minList l) := by
  cases l with
  | nil => exact absurd rfl h
  | cons x xs => exact congrArg some (minList_cons x xs).symm

theorem minList_le_mem (l : List ℝ) : ∀ e ∈ l, minList l ≤ e := fun e he =>
  (List.min?_eq_some_iff.mp (min?_eq_minList l (List.ne_nil_of_mem he))).2 e he

theorem minList_eq_of (l : List ℝ) (v : ℝ) (hv : v ∈ l) (hle : ∀ e ∈ l, v ≤ e) : minList l = v :=
  Option.some.inj ((min?_eq_minList l (List.ne_nil_of_mem hv)).symm.trans (List.min?_eq_some_iff.mpr ⟨hv, hle⟩))

theorem argminFrom_spec (l : List ℝ) :
    ∀ (xs : List ℝ) (best : ℝ) (bi i : ℕ), l.drop i = xs → l[bi]? = some best →
      l[argminFrom best bi xs i]? = some (xs.foldl min best) := by
  intro xs
  induction xs with
  | nil => intro best bi i _ hb; exact hb
  | cons x xs ih =>
    intro best bi i hd hb
    have hx : l[i]? = some x := by rw [← List.head?_drop, hd]; rfl
    have hd' : l.drop (i + 1) = xs := by rw [← List.tail_drop, hd]; rfl
    simp only [argminFrom, le_real, decide_eq_true_eq, List.foldl_cons]
    by_cases h : best ≤ x
    · rw [if_pos h, min_eq_left h]
      exact ih best bi (i + 1) hd' hb
    · rw [if_neg h, min_eq_right (le_of_not_ge h)]
      exact ih x i (i + 1) hd' hx

theorem getElem?_argminFirst (l : List ℝ) (h : l ≠ []) : l[argminFirst l]? = some (minList l) := by
  cases l with
  | nil => exact absurd rfl h
  | cons x xs =>
    rw [minList_cons]
    exact argminFrom_spec (x :: xs) xs x 0 1 rfl rfl

/-- `v` is the minimum of `l` with entry `k` replaced by `x`: it is `x` or an entry other than `k`, and it is below
`x` and below every other entry. -/
theorem minList_set_eq_of (l : List ℝ) (k : ℕ) (hk : k < l.length) (x v : ℝ)
    (hv : v = x ∨ ∃ i, ∃ hi : i < l.length, i ≠ k ∧ l[i] = v) (hx : v ≤ x)
    (hle : ∀ i (hi : i < l.length), i ≠ k → v ≤ l[i]) : minList (l.set k x) = v := by
  refine minList_eq_of _ _ ?_ fun e he => ?_
  · rcases hv with rfl | ⟨i, hi, hik, rfl⟩
    · exact List.mem_iff_getElem.mpr ⟨k, (List.length_set ..).symm ▸ hk, List.getElem_set_self _⟩
    · exact List.mem_iff_getElem.mpr ⟨i, (List.length_set ..).symm ▸ hi, List.getElem_set_ne (Ne.symm hik) _⟩
  · obtain ⟨i, hi, rfl⟩ := List.mem_iff_getElem.mp he
    by_cases hik : i = k
    · subst hik; exact (List.getElem_set_self _).symm ▸ hx
    · rw [List.getElem_set_ne (Ne.symm hik)]
      exact hle i (List.length_set .. ▸ hi) hik

theorem getElem_argminFirst_le (l : List ℝ) (hne : l ≠ []) :
    ∃ ha : argminFirst l < l.length, ∀ i (hi : i < l.length), l[argminFirst l] ≤ l[i] := by
  obtain ⟨ha, hv⟩ := List.getElem?_eq_some_iff.mp (getElem?_argminFirst l hne)
  exact ⟨ha, fun i hi => hv ▸ minList_le_mem l _ (List.getElem_mem hi)⟩

/-- Per-sample SAC actor term as a function of critic `k`'s output, when the minimum is not tied at `k`:
slope `-1` if `k` is the arg-min the executable model picks (near `l[k]` the minimum is then the varied entry
itself), `0` otherwise (the minimum stays at the arg-min entry). -/
theorem sacActorTerm_hasDerivAt (a : ℝ) (l : List ℝ) (k : ℕ) (hk : k < l.length)
    (hno_tie : (∀ i (hi : i < l.length), i ≠ k → l[k] < l[i]) ∨ (∃ i, ∃ hi : i < l.length, l[i] < l[k])) :
    HasDerivAt (fun x => a - minList (l.set k x)) (if k == argminFirst l then -1 else 0) l[k] := by
  obtain ⟨hm, hle⟩ := getElem_argminFirst_le l (List.ne_nil_of_length_pos (Nat.zero_lt_of_lt hk))
  rcases hno_tie with hmin | ⟨i₀, hi₀, hlt⟩
  · have e : k = argminFirst l := by
      by_contra hc
      exact ((hmin _ hm fun h => hc h.symm).trans_le (hle k hk)).false
    have ev : ∀ᶠ x in 𝓝 l[k], ∀ i : Fin l.length, i.val ≠ k → x < l[i.val]'i.isLt :=
      Filter.eventually_all.mpr fun i =>
        Filter.eventually_imp_distrib_left.mpr fun hik => eventually_lt_nhds (hmin i i.isLt hik)
    rw [if_pos (beq_iff_eq.mpr e)]
    exact ((hasDerivAt_id' l[k]).const_sub a).congr_of_eventuallyEq (ev.mono fun x hx => congrArg (a - ·)
      (minList_set_eq_of l k hk x x (Or.inl rfl) le_rfl fun i hi hik => (hx ⟨i, hi⟩ hik).le))
  · have hlt' : l[argminFirst l] < l[k] := (hle i₀ hi₀).trans_lt hlt
    have e : argminFirst l ≠ k := fun h => by subst h; exact hlt'.false
    rw [if_neg fun h => e (beq_iff_eq.mp h).symm]
    exact (hasDerivAt_const l[k] (a - l[argminFirst l])).congr_of_eventuallyEq
      ((eventually_gt_nhds hlt').mono fun x hx => congrArg (a - ·)
        (minList_set_eq_of l k hk x _ (Or.inr ⟨_, hm, e, rfl⟩) hx.le fun i hi _ => hle i hi))

theorem progressRemaining_real (num total : ℕ) :
    (progressRemaining num total : ℝ) = max (1 - (num : ℝ) / (total : ℝ)) 0 := by
  rw [progressRemaining, max'_real, one_real, zero_real]; rfl

@[simp] theorem length_ppoCotLogp (c : PGConfig ℝ) (S : List (PGSample ℝ)) :
    (ppoCotLogp c S).length = S.length := List.length_map _
@[simp] theorem length_a2cCotLogp (c : PGConfig ℝ) (S : List (PGSample ℝ)) :
    (a2cCotLogp c S).length = S.length := List.length_map _
@[simp] theorem length_valueCot (v : ℝ) (cv : Option ℝ) (S : List (PGSample ℝ)) :
    (valueCot v cv S).length = S.length := List.length_map _
@[simp] theorem length_entropyCot (c : PGConfig ℝ) (S : List (PGSample ℝ)) :
    (entropyCot c S).length = S.length := List.length_map _
@[simp] theorem length_dqnCot (γ : ℝ) (S : List (QSample ℝ)) : (dqnCot γ S).length = S.length :=
  List.length_map _
@[simp] theorem length_sacCriticCot (γ αc : ℝ) (nc : ℕ) (S : List (CriticSample ℝ)) :
    (sacCriticCot γ αc nc S).length = S.length := List.length_map _
@[simp] theorem length_td3CriticCot (γ : ℝ) (nc : ℕ) (S : List (CriticSample ℝ)) :
    (td3CriticCot γ nc S).length = S.length := List.length_map _
@[simp] theorem length_sacActorCotLogp (αc : ℝ) (S : List (ActorSample ℝ)) :
    (sacActorCotLogp αc S).length = S.length := List.length_map _
@[simp] theorem length_sacActorCotQ (S : List (ActorSample ℝ)) :
    (sacActorCotQ S).length = S.length := List.length_map _
@[simp] theorem length_td3ActorCot (q : List ℝ) : (td3ActorCot q).length = q.length :=
  List.length_map _

end SB3Verif.Lemmas.Objective
