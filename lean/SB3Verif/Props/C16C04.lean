/-
C04 ∘ C16 — end to end: what can be *sampled* from a HER replay buffer after off-policy collection is one of the
environments' own transitions, relabelled (for the virtual part) with an achieved goal of the same ENVIRONMENT
episode.

Composition of the collection model (`SB3Verif/Model/OffPolicy.lean`, theorems `Props/C04.lean`: the rows handed
to `replay_buffer.add` are the sub-environments' own transitions, for every `n_envs`, episode script,
`train_freq` / `learning_starts` / split into `learn()` calls) with the HER model (`SB3Verif/Model/Her.lean`,
invariant `Lemmas/Her.lean`) through the adapter `toOps` (`Lemmas/OffPolicyHer.lean`). The HER model's payloads
are tags, so everything is stated for an arbitrary `HTagging` (any naming of the `observation` /
`achieved_goal` / `desired_goal` parts of an observation vector, of stored actions and of rewards).

`(run cfg calls).w.log[a][e]` is sub-environment `e`'s own record of vectorised step `a`; `EnvTransAt s e a t b`
says `t` is that record and `b` the action stored next to the one the environment received; `EnvEndsAt log e a ee`
says the environment episode containing step `a` of env `e` ends (`terminated ∨ truncated`) at step `ee`.
-/
import SB3Verif.Lemmas.OffPolicyHer

namespace SB3Verif.C16C04

open SB3Verif.OffPolicy SB3Verif.Lemmas.OffPolicy SB3Verif.Lemmas.OffPolicyHer SB3Verif.Her

variable {α : Type} [Add α] [Sub α] [Mul α] [Div α] [Neg α] [One α] [LT α] [DecidableLT α]

/-- **The HER buffer receives the environments' own transition sequence.** For every off-policy run without
`VecNormalize`, column `e` of the HER buffer's history has one entry per vectorised step, entry `a` is
sub-environment `e`'s own transition of step `a` (observation acted on, true successor — the terminal observation
when the episode ended —, raw reward, stored action, `done = terminated ∨ truncated`,
`timeout = handle_timeout_termination ∧ truncated ∧ ¬terminated`), and the flag that delimits the HER episode
segments is exactly the environment's `terminated ∨ truncated`. -/
theorem her_history_is_env_log (T : HTagging α) (hTT : Bool) (cap : ℕ) (cfg : Cfg α) (calls : List (Call α))
    (hv : cfg.vecNormalize = false) (hwf : ∀ c ∈ calls, c.wf cfg = true) (e : ℕ) (he : e < cfg.nEnvs) :
    (ghostOf hTT cap (toOps T (run cfg calls).st.buffer) e).length = (run cfg calls).w.log.length ∧
    ∀ a, a < (run cfg calls).w.log.length → ∃ t b, EnvTransAt (run cfg calls) e a t b ∧
      (ghostOf hTT cap (toOps T (run cfg calls).st.buffer) e).getD a default =
        Rec.mk (envTrans T hTT cfg.post t b) (t.term || t.trunc) ∧
      envDone (run cfg calls).w.log e a = (t.term || t.trunc) := by
  have hi := inv_run_of_no_vn cfg calls hv hwf
  exact ⟨ghost_length T hTT cap cfg _ hi e, fun a ha => ghost_cell T hTT cap cfg _ hi a e ha he⟩

/-- **Episode boundaries coincide**: "the episode of add `a` ends at add `ee`" in the HER model's sense (column
`e`) holds iff sub-environment `e`'s first `terminated ∨ truncated` at or after step `a` is at step `ee`. -/
theorem her_episodes_are_env_episodes (T : HTagging α) (hTT : Bool) (cap : ℕ) (cfg : Cfg α) (calls : List (Call α))
    (hv : cfg.vecNormalize = false) (hwf : ∀ c ∈ calls, c.wf cfg = true) (e a ee : ℕ) (he : e < cfg.nEnvs) :
    endsAt (ghostOf hTT cap (toOps T (run cfg calls).st.buffer) e) a ee ↔ EnvEndsAt (run cfg calls).w.log e a ee :=
  endsAt_iff_env T hTT cap cfg _ (inv_run_of_no_vn cfg calls hv hwf) e a ee he

/-- **Sampled from HER ⇒ environment transition, hindsight goal from the same environment episode.**
For every off-policy run without `VecNormalize` (any `n_envs ≥ 1`, observation wrapper, episode scripts,
`train_freq` / `learning_starts` / split into `learn()` calls) feeding a HER buffer of any ring capacity `≥ 1`
(with or without timeout handling), any strategy, `n_sampled_goal`, batch size and any draws `sample` can make
(`sampleOk`): the batch is `real ++ virt`, `|virt| = ⌊n·B/(n+1)⌋`, and
* every element of `real` is sub-environment `e`'s own transition `t` of ONE vectorised step `a` among the `cap`
  most recent ones (not overwritten), whose environment episode has ended (at step `ee`);
* every element of `virt` keeps observation, achieved goal, action, next observation, next achieved goal and done
  flag of such a transition `t` (step `a`), its desired goal — in the observation and the next observation — is the
  *next achieved goal* of the same sub-environment's transition `t'` of step `a'`, also not overwritten, in the SAME
  environment episode (both end at the same `terminated ∨ truncated` step `ee`, none in between); `future` ⇒ `a ≤ a'`,
  `final` ⇒ `a' = ee`; its reward is `compute_reward(next achieved goal of t, new goal)`. -/
theorem her_sample_is_env_hindsight (cr : ℕ → ℕ → ℤ) (T : HTagging α) (hTT : Bool) (cap : ℕ) (cfg : Cfg α)
    (calls : List (Call α)) (hv : cfg.vecNormalize = false) (hwf : ∀ c ∈ calls, c.wf cfg = true)
    (hcap : 0 < cap) (hn : 0 < cfg.nEnvs) (strat : Strategy) (nGoal batch : ℕ) (draws goals : List ℕ)
    (hok : (Her.run cap cfg.nEnvs hTT (toOps T (run cfg calls).st.buffer)).sampleOk strat nGoal batch draws goals
      = true) :
    ∃ real virt,
      (Her.run cap cfg.nEnvs hTT (toOps T (run cfg calls).st.buffer)).sampleOut cr strat nGoal batch draws goals
        = real ++ virt ∧
      real.length = batch - nbVirtual nGoal batch ∧ virt.length = nbVirtual nGoal batch ∧
      (∀ x, x ∈ real → ∃ e a ee t b, e < cfg.nEnvs ∧ EnvTransAt (run cfg calls) e a t b ∧
        (run cfg calls).w.log.length ≤ a + cap ∧ EnvEndsAt (run cfg calls).w.log e a ee ∧
        x = realOf (envTrans T hTT cfg.post t b)) ∧
      (∀ x, x ∈ virt → ∃ e a a' ee t b t' b', e < cfg.nEnvs ∧
        EnvTransAt (run cfg calls) e a t b ∧ EnvTransAt (run cfg calls) e a' t' b' ∧
        (run cfg calls).w.log.length ≤ a + cap ∧ (run cfg calls).w.log.length ≤ a' + cap ∧
        EnvEndsAt (run cfg calls).w.log e a ee ∧ EnvEndsAt (run cfg calls).w.log e a' ee ∧
        (strat = .future → a ≤ a') ∧ (strat = .final → a' = ee) ∧
        x = relabelOf cr (envTrans T hTT cfg.post t b) (envTrans T hTT cfg.post t' b')) := by
  have hi := inv_run_of_no_vn cfg calls hv hwf
  obtain ⟨real, virt, h1, h2, h3, h4, h5⟩ :=
    SB3Verif.Her.Lemmas.sample_core cr cap cfg.nEnvs hTT _ hcap hn strat nGoal batch draws goals hok
  refine ⟨real, virt, h1, h2, h3, fun x hx => ?_, fun x hx => ?_⟩
  · obtain ⟨e, he, a, ee, ha, hl, hend, rfl⟩ := h4 x hx
    obtain ⟨t, b, ht, hl, hend, hc⟩ := ghost_entry T hTT cap cfg _ hi e a ee he ha hl hend
    exact ⟨e, a, ee, t, b, he, ht, hl, hend, by rw [hc]⟩
  · obtain ⟨e, he, a, a', ee, ha, hl, ha', hl', hend, hend', hf, hfin, rfl⟩ := h5 x hx
    obtain ⟨t, b, ht, hl, hend, hc⟩ := ghost_entry T hTT cap cfg _ hi e a ee he ha hl hend
    obtain ⟨t', b', ht', hl', hend', hc'⟩ := ghost_entry T hTT cap cfg _ hi e a' ee he ha' hl' hend'
    exact ⟨e, a, a', ee, t, b, t', b', he, ht, ht', hl, hl', hend, hend', hf, hfin, by rw [hc, hc']⟩

/-! ### Non-vacuity: a concrete two-env run whose HER ring wraps, one env with an episode longer than the ring
(`herCfg`, `herCalls`, `herBuf`, `exHTag` are defined in `Lemmas/OffPolicyHer.lean`) -/

example : herCfg.vecNormalize = false ∧ (∀ c ∈ herCalls, c.wf herCfg = true) ∧ 0 < herCfg.nEnvs ∧
    0 < ringSize 7 2 ∧ ringSize 7 2 = 3 := by decide +kernel

/-- 5 vectorised steps went into a ring of 3: it wrapped (`pos = 2`). Env 0's second episode (steps 2, 3) lies in
slots 2, 0 — across the ring end; env 1's 4-step episode (longer than the ring) keeps its last step (slot 0). -/
example : (run herCfg herCalls).w.log.length = 5 ∧ herBuf.cols.map (·.pos) = [2, 2] ∧
    herBuf.cols.map (·.epLen) = [[2, 0, 2], [1, 0, 0]] ∧ herBuf.cols.map (·.epStart) = [[2, 1, 2], [0, 1, 0]] ∧
    herBuf.validFlat = [0, 1, 4] := by decide +kernel

/-- the hypothesis of `her_sample_is_env_hindsight`: `future`, `n_sampled_goal = 1`, batch 4 -/
example : herBuf.sampleOk .future 1 4 [4, 1, 0, 0] [1, 0] = true := by decide +kernel

/-- the batch: two real samples (env 0, step 3: 40 → 50, terminated, desired goal 8, reward 4) and two relabelled
ones — env 0's step 2 (30 → 40) with the goal achieved at step 3 (51), and env 1's step 3 (130 → 140, truncated:
done masked by the timeout) with its own next achieved goal 141 -/
example : (herBuf.sampleOut (fun a g => (a * 1000 + g : ℕ)) .future 1 4 [4, 1, 0, 0] [1, 0]).map
      (fun s => (s.obs, s.nobs, s.dg, s.ndg, s.rew, s.done)) =
    [(40, 50, 8, 8, 4, true), (40, 50, 8, 8, 4, true), (30, 40, 51, 51, 41051, false),
     (130, 140, 141, 141, 141141, false)] := by decide +kernel

end SB3Verif.C16C04
