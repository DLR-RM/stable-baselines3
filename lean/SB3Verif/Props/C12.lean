/-
C12 — learn(): step, update and schedule accounting.

All statements are about the executable model `SB3Verif/Model/Learn.lean`, whose definitions the driver
`SB3Verif/Driver/C12.lean` runs against real `learn()` calls of PPO, A2C, DQN, SAC, TD3 and DDPG.

Reading guide: a history is a `List Op` (`learn total reset` calls and the vectorised environment steps
`env stop dones kl` that happen inside them); `run cfg s ops` is the final clock state and the trace of
events (`setup`, `rolloutStart`, `step`, `progress`, `rolloutEnd`, `train`, `finish`).
"For all histories" = for all `ops` (and, where stated, for all start states `s`, reachable or not).
-/
import SB3Verif.Lemmas.LearnProgress
import SB3Verif.Props.C12C13
import SB3Verif.Props.C08C12
import Mathlib.Tactic.NormNum.Ineq

namespace SB3Verif.C12

open SB3Verif.Learn SB3Verif.LearnLemmas

/-- **`reset_num_timesteps` is honoured.** A `learn(T, reset)` call on an idle algorithm starts counting at
`0` (reset) or at the current counter (no reset), sets the target to `start + T`, clears `_episode_num`
only on reset, and leaves the update counters and the stored progress alone. The first event tells the
callback exactly these clocks. -/
theorem reset_num_semantics (cfg : Cfg) (s : State) (T : ℕ) (r : Bool) (h : s.running = false) :
    let s' := (step cfg s (.learn T r)).1
    s'.start = (if r then 0 else s.num) ∧ s'.num = s'.start ∧ s'.total = s'.start + T ∧
      s'.episodeNum = (if r then 0 else s.episodeNum) ∧ s'.nUpdates = s.nUpdates ∧ s'.optSteps = s.optSteps ∧
      s'.progress = s.progress ∧ s'.stopped = false ∧
      (step cfg s (.learn T r)).2.head? = some (.setup s'.num s'.total) := by
  rw [step_learn _ _ _ _ h]
  rcases loopHead_cases (setupLearn s T r) with ⟨he, _⟩ | ⟨he, _⟩ <;> rw [he] <;>
    exact ⟨rfl, rfl, setupLearn_total s T r, rfl, rfl, rfl, rfl, rfl, rfl⟩

/-- **The counter advances by `n_envs` per vectorised step** — in every history, from every state: each
`step` event carries the previous counter value plus `n_envs` (`setup` announces where a call starts). -/
theorem num_advances_by_nenvs (cfg : Cfg) (s : State) (ops : List Op) :
    countsOk cfg.nEnvs s.num (run cfg s ops).2 :=
  countsOk_of_accepts (run_accepts cfg s ops (Clk.of s) (link_of s))

/-- The same on the state; target and start of the call do not move while the call runs. -/
theorem env_step_moves_only_the_counter (cfg : Cfg) (s : State) (a : Bool) (d : ℕ) (k : List Bool)
    (h : s.running = true) :
    (step cfg s (.env a d k)).1.num = s.num + cfg.nEnvs ∧ (step cfg s (.env a d k)).1.total = s.total ∧
      (step cfg s (.env a d k)).1.start = s.start := by
  cases a with
  | true => rw [step_env _ _ _ _ _ h, envStep_stop]; exact ⟨rfl, rfl, rfl⟩
  | false =>
    cases hm : moreAfter cfg s d with
    | true => exact ⟨(step_env_mid cfg s d k h hm).num, (step_env_mid cfg s d k h hm).total, (step_env_mid cfg s d k h hm).start⟩
    | false =>
      obtain ⟨s3, e, he⟩ := step_env_end cfg s d k h hm
      obtain ⟨h1, h2, h3⟩ := loopHead_frame s3
      rw [he]
      exact ⟨h1.trans e.num, h2.trans e.total, h3.trans e.start⟩

/-- **A stop request ends the call at once**: the counter has moved by this step's `n_envs`, the callback
saw it, and nothing else happens — no progress update, no `train()`, no further rollout; the update
counters and the stored progress are untouched. -/
theorem stop_request_immediate (cfg : Cfg) (s : State) (d : ℕ) (k : List Bool) (h : s.running = true) :
    step cfg s (.env true d k) =
      ({ s with num := s.num + cfg.nEnvs, running := false, stopped := true },
        [.step (s.num + cfg.nEnvs) s.progress, .finish (s.num + cfg.nEnvs) true]) := by
  rw [step_env _ _ _ _ _ h, envStep_stop]

/-- After a call ended (normally or by a stop request) nothing moves until the next `learn`. -/
theorem idle_until_next_learn (cfg : Cfg) (s : State) (a : Bool) (d : ℕ) (k : List Bool) (h : s.running = false) :
    step cfg s (.env a d k) = (s, []) :=
  step_env_idle cfg s a d k h

/-- **A call that is not stopped ends at the first rollout boundary at or after the target** — every
algorithm, every `train_freq` unit, every history from a fresh algorithm (several calls, stop requests,
resets …). When the machine is idle and the last call was not stopped: the counter has reached the
target, and either no step was made (`num = start`: the target was already met) or the last rollout
was complete (`rolloutDone`) and *began* strictly before the target (`num - n_envs·colSteps < total`),
so no earlier boundary had reached it; the stored progress is the one of the final counter. -/
theorem stops_at_first_boundary (cfg : Cfg) (ops : List Op) :
    let s := (run cfg State.init ops).1
    s.running = false → s.stopped = false →
      s.total ≤ s.num ∧
        (s.num = s.start ∨
          (s.start + cfg.nEnvs * s.colSteps ≤ s.num ∧ s.num - cfg.nEnvs * s.colSteps < s.total ∧ rolloutDone cfg s ∧
            s.progress = progressOf s.num s.total)) :=
  (genInv_run cfg State.init ops (genInv_init cfg)).fin

/-- While a call is running, the rollout in progress began strictly before the target (a new rollout is
never started at or after it). -/
theorem rollout_starts_before_target (cfg : Cfg) (ops : List Op) :
    let s := (run cfg State.init ops).1
    s.running = true → s.start + cfg.nEnvs * s.colSteps ≤ s.num ∧ s.num - cfg.nEnvs * s.colSteps < s.total :=
  (genInv_run cfg State.init ops (genInv_init cfg)).run

/-- `rolloutEnd` reports exactly the number of `step` events since its `rolloutStart` (this is the
"collected steps" that `gradient_steps = -1` multiplies by `n_envs`). -/
theorem rollout_end_reports_its_steps (cfg : Cfg) (ops : List Op) :
    rolloutStepsOk 0 (run cfg State.init ops).2 :=
  rolloutStepsOk_of_accepts (run_accepts cfg State.init ops (Clk.of State.init) (link_of _))

/-- **Closed form, on-policy** (`R = n_envs · n_steps`): a `learn(T, reset)` call from ANY idle state,
followed by any environment steps (stop requests allowed, any KL exits), that is over and was not stopped
ends with the counter at `start + R · ⌈T / R⌉`, the end of its `⌈T / R⌉`-th rollout (`start` = `0` on reset, else the
counter before the call). `learn(20)` with `R = 8` ends at 24, beyond its target: example below. -/
theorem final_count_on_policy (cfg : Cfg) (c : OnCfg) (hk : cfg.kind = .on c) (hn : 0 < cfg.nEnvs) (hL : 0 < c.nSteps)
    (s0 : State) (h0 : s0.running = false) (T : ℕ) (r : Bool) (ins : List Op)
    (hins : ∀ op ∈ ins, ∃ a d k, op = .env a d k) :
    let s := (run cfg s0 (.learn T r :: ins)).1
    s.running = false → s.stopped = false →
      s.num = (if r then 0 else s0.num) + cfg.nEnvs * c.nSteps * ceilDiv T (cfg.nEnvs * c.nSteps) := by
  intro s hr hs
  -- `FixInv`, the invariant of a call with rollouts of fixed length, with nothing (`True`) known of the update counters
  refine ((fixInv_call (P := fun _ _ _ => True) (Nat.mul_pos hn hL) (moreAfter_on hk) s0 h0 T r trivial ins
    fun op hop => ?_).fin hr hs).1
  obtain ⟨a, d, k, rfl⟩ := hins op hop
  exact ⟨a, d, k, rfl, fun _ _ _ _ _ _ _ => trivial⟩

/-- **Closed form, off-policy with `train_freq` in steps** (`R = n_envs · train_freq`): same statement. -/
theorem final_count_off_policy_steps (cfg : Cfg) (c : OffCfg) (hk : cfg.kind = .off c) (hu : c.unit = .step)
    (hn : 0 < cfg.nEnvs) (hL : 0 < c.freq) (s0 : State) (h0 : s0.running = false) (T : ℕ) (r : Bool)
    (ins : List Op) (hins : ∀ op ∈ ins, ∃ a d k, op = .env a d k) :
    let s := (run cfg s0 (.learn T r :: ins)).1
    s.running = false → s.stopped = false →
      s.num = (if r then 0 else s0.num) + cfg.nEnvs * c.freq * ceilDiv T (cfg.nEnvs * c.freq) := by
  intro s hr hs
  exact ((fixInv_call_off cfg c hk hu hn hL s0 h0 T r ins hins).fin hr hs).1

/-- **No gradient update before `learning_starts`** (off-policy): in every history, from every state, every
`train()` happens with `num_timesteps > learning_starts` (and `> 0`). -/
theorem no_update_before_learning_starts (cfg : Cfg) (c : OffCfg) (hk : cfg.kind = .off c) (s : State)
    (ops : List Op) : ∀ x ∈ trains (run cfg s ops).2, c.learningStarts < x.1 ∧ 0 < x.1 :=
  trains_of_accepts hk (run_accepts cfg s ops (Clk.of s) (link_of s))

/-- **Off-policy update count per rollout** (both `train_freq` units): a step that is not a stop request is
followed by `train()` exactly when it completes the rollout (`should_collect_more_steps` turns false) and
`num_timesteps > learning_starts`, `> 0`; the number of gradient steps is `gradStepsOf`: `gradient_steps`, or for a
negative value the transitions collected in this rollout (`(colSteps+1) · n_envs`); `gradient_steps = 0` means none.
(The library documents `-1` only; its code tests `gradient_steps >= 0`, so every negative value acts like `-1`, and
`gradStepsOf` follows the code.) -/
theorem update_count_off_policy_rollout (cfg : Cfg) (c : OffCfg) (hk : cfg.kind = .off c) (s : State)
    (hr : s.running = true) (d : ℕ) (k : List Bool) :
    trains (step cfg s (.env false d k)).2 =
      if shouldCollectMore c (s.colSteps + 1) (s.colEps + d) = false ∧ 0 < s.num + cfg.nEnvs ∧
          c.learningStarts < s.num + cfg.nEnvs ∧ 0 < gradStepsOf cfg.nEnvs c (s.colSteps + 1)
      then [(s.num + cfg.nEnvs, gradStepsOf cfg.nEnvs c (s.colSteps + 1))] else [] := by
  rw [step_env _ _ _ _ _ hr]
  cases hm : shouldCollectMore c (s.colSteps + 1) (s.colEps + d)
  · rw [envStep_off_end cfg c s d k hk hm]
    rcases trainOff_cases cfg.nEnvs c (offStepState cfg s d) with ⟨he, hno⟩ | ⟨he, hyes⟩
    · rw [he]
      simp only [offStepState] at hno
      rw [if_neg (by rintro ⟨_, h⟩; exact hno h)]
      simp [trains_loopHead, trains]
    · rw [he]
      simp only [offStepState] at hyes
      rw [if_pos ⟨rfl, hyes⟩]
      simp [trains_loopHead, trains, offStepState]
  · simp [envStep_off_mid cfg c s d k hk hm, trains]

/-- **On-policy update count per rollout**: exactly the step that completes the `n_steps`-th step of the
rollout is followed by one `train()`, with `onTrainCounts` optimizer steps (`1` for A2C,
`n_epochs · ⌈n_steps·n_envs / batch_size⌉` for PPO unless the KL test cuts it). -/
theorem update_count_on_policy_rollout (cfg : Cfg) (c : OnCfg) (hk : cfg.kind = .on c) (s : State)
    (hr : s.running = true) (d : ℕ) (k : List Bool) :
    trains (step cfg s (.env false d k)).2 =
      if s.colSteps + 1 < c.nSteps then [] else [(s.num + cfg.nEnvs, (onTrainCounts cfg.nEnvs c k).1)] := by
  rw [step_env _ _ _ _ _ hr]
  by_cases hm : s.colSteps + 1 < c.nSteps
  · simp [envStep_on_mid cfg c s d k hk hm, hm, trains]
  · rw [envStep_on_end cfg c s d k hk hm]
    simp only [trains_append, trains_loopHead, hm, if_false, trainOn_eq, onEndState, trains, List.append_nil,
      List.nil_append]

/-- what one un-cut on-policy `train()` does: A2C one optimizer step / one update; PPO
`n_epochs · ⌈n_steps·n_envs / batch_size⌉` optimizer steps / `n_epochs` updates -/
theorem on_policy_train_counts (nEnvs : ℕ) (c : OnCfg) :
    onTrainCounts nEnvs c [] =
      if c.a2c then (1, 1) else (c.nEpochs * ((c.nSteps * nEnvs + c.batch - 1) / c.batch), c.nEpochs) := by
  unfold onTrainCounts ppoFull nBatches
  cases c.a2c <;> simp [firstTrue]

/-- **PPO's `target_kl` exit, exact count.** With one flag per minibatch ("this minibatch's approximate KL exceeds
`1.5·target_kl`", in evaluation order over the epochs), a `train()` makes exactly `u` optimizer steps where `u` is the
index of the FIRST flagged minibatch among the `n_epochs·⌈R/batch⌉` of the call — every earlier minibatch got its
step, the flagged one and all later ones did not — or all of them when none is flagged; `_n_updates` counts the
epochs begun (`u / nb + 1`, resp. `n_epochs`). -/
theorem kl_exit_exact_count (nEnvs : ℕ) (c : OnCfg) (kl : List Bool) (h : c.a2c = false) :
    (onTrainCounts nEnvs c kl).1 ≤ ppoFull nEnvs c ∧
      (∀ i, i < (onTrainCounts nEnvs c kl).1 → kl.getD i false = false) ∧
      ((onTrainCounts nEnvs c kl).1 < ppoFull nEnvs c → kl.getD (onTrainCounts nEnvs c kl).1 false = true) ∧
      ((onTrainCounts nEnvs c kl).1 < ppoFull nEnvs c →
        (onTrainCounts nEnvs c kl).2 = (onTrainCounts nEnvs c kl).1 / nBatches (c.nSteps * nEnvs) c.batch + 1) ∧
      ((onTrainCounts nEnvs c kl).1 = ppoFull nEnvs c → (onTrainCounts nEnvs c kl).2 = c.nEpochs) := by
  unfold onTrainCounts
  simp only [h, Bool.false_eq_true, if_false]
  cases hf : firstTrue (kl.take (ppoFull nEnvs c)) with
  | none =>
    exact ⟨Nat.le_refl _, (firstTrue_take kl _).2 hf, fun hlt => absurd hlt (Nat.lt_irrefl _),
      fun hlt => absurd hlt (Nat.lt_irrefl _), fun _ => rfl⟩
  | some j =>
    obtain ⟨hj, h2, h3⟩ := (firstTrue_take kl _).1 j hf
    exact ⟨Nat.le_of_lt hj, h3, fun _ => h2, fun _ => rfl, fun he => absurd he (Nat.ne_of_lt hj)⟩

/-- in particular the exit can only remove optimizer steps (and never adds updates) -/
theorem kl_exit_only_removes_updates (nEnvs : ℕ) (c : OnCfg) (kl : List Bool) (h : c.a2c = false) :
    (onTrainCounts nEnvs c kl).1 ≤ ppoFull nEnvs c ∧ (onTrainCounts nEnvs c kl).2 ≤ c.nEpochs := by
  obtain ⟨h1, _, _, h4, h5⟩ := kl_exit_exact_count nEnvs c kl h
  refine ⟨h1, ?_⟩
  rcases Nat.lt_or_eq_of_le h1 with hlt | heq
  · rw [h4 hlt]
    -- the exit happened in epoch `u / nb`, one of the `n_epochs` epochs of the call
    have hnb : 0 < nBatches (c.nSteps * nEnvs) c.batch :=
      Nat.pos_of_ne_zero fun h0 => by rw [ppoFull, h0, Nat.mul_zero] at hlt; exact Nat.not_lt_zero _ hlt
    exact (Nat.div_lt_iff_lt_mul hnb).mpr hlt
  · rw [h5 heq]

/-- **On-policy update count of a whole call**: over a `learn(T, reset)` call from any idle state that is over and
was not stopped, with no KL exit (every step carries the empty flag list), the optimizer-step counter grew by
`⌈T/R⌉` times the optimizer steps of one un-cut `train()` and `_n_updates` by `⌈T/R⌉` times its updates: the two
components of `onTrainCounts … []`, which `on_policy_train_counts` evaluates to `1 | n_epochs·⌈R/batch⌉` and
`1 | n_epochs` (A2C | PPO). The number of `train` events is not part of the statement. -/
theorem update_count_on_policy (cfg : Cfg) (c : OnCfg) (hk : cfg.kind = .on c) (hn : 0 < cfg.nEnvs) (hL : 0 < c.nSteps)
    (s0 : State) (h0 : s0.running = false) (T : ℕ) (r : Bool) (ins : List Op)
    (hins : ∀ op ∈ ins, ∃ a d, op = .env a d []) :
    let s := (run cfg s0 (.learn T r :: ins)).1
    let m := ceilDiv T (cfg.nEnvs * c.nSteps)
    s.running = false → s.stopped = false →
      s.optSteps = s0.optSteps + (onTrainCounts cfg.nEnvs c []).1 * m ∧
        s.nUpdates = s0.nUpdates + (onTrainCounts cfg.nEnvs c []).2 * m := by
  intro s m hr hs
  refine ((fixInv_call
    (P := fun i o u => o = s0.optSteps + (onTrainCounts cfg.nEnvs c []).1 * i ∧
      u = s0.nUpdates + (onTrainCounts cfg.nEnvs c []).2 * i)
    (Nat.mul_pos hn hL) (moreAfter_on hk) s0 h0 T r ⟨rfl, rfl⟩ ins fun op hop => ?_).fin hr hs).2
  obtain ⟨a, d, rfl⟩ := hins op hop
  refine ⟨a, d, [], rfl, fun i o u s3 _ _ h => ?_⟩
  show _ = _ ∧ _ = _
  rw [trainCounts_on hk, Nat.mul_succ, Nat.mul_succ, ← Nat.add_assoc, ← Nat.add_assoc, ← h.1, ← h.2]
  exact ⟨rfl, rfl⟩

/-- **Off-policy update count of a whole call** (`train_freq` in steps, `R = n_envs·train_freq`): a call that is
over and was not stopped made `⌈T/R⌉` rollouts, of which the first `min(⌈T/R⌉, ⌊(learning_starts - start)/R⌋)`
ended at or before `learning_starts`; each of the others was followed by `g` gradient steps
(`g = gradient_steps`, or `R` for `-1`). Both the optimizer-step count and `_n_updates` grew by exactly that. -/
theorem update_count_off_policy (cfg : Cfg) (c : OffCfg) (hk : cfg.kind = .off c) (hu : c.unit = .step)
    (hn : 0 < cfg.nEnvs) (hL : 0 < c.freq) (s0 : State) (h0 : s0.running = false) (T : ℕ) (r : Bool)
    (ins : List Op) (hins : ∀ op ∈ ins, ∃ a d k, op = .env a d k) :
    let s := (run cfg s0 (.learn T r :: ins)).1
    let start := if r then 0 else s0.num
    let R := cfg.nEnvs * c.freq
    let m := ceilDiv T R
    let g := gradStepsOf cfg.nEnvs c c.freq
    s.running = false → s.stopped = false →
      s.optSteps = s0.optSteps + g * (m - min m ((c.learningStarts - start) / R)) ∧
        s.nUpdates = s0.nUpdates + g * (m - min m ((c.learningStarts - start) / R)) := by
  intro s start R m g hr hs
  exact ((fixInv_call_off cfg c hk hu hn hL s0 h0 T r ins hins).fin hr hs).2

/-- TD3's delayed actor: during `g` gradient steps started at update counter `u` the actor optimizer steps
once per multiple of `policy_delay` in `(u, u+g]` — `⌊(u+g)/d⌋ - ⌊u/d⌋` times (SAC/DDPG: `d = 1`, every step). -/
theorem td3_actor_steps (d u g : ℕ) (hd : 0 < d) : actorSteps d u g = (u + g) / d - u / d := by
  -- the same count as that of the delayed target updates in C08
  rw [← Lemmas.Cadence.count_multiples, actorSteps, if_neg (Nat.ne_of_gt hd), List.count_eq_countP, List.countP_map,
    List.countP_eq_length_filter]
  exact congrArg (fun p => (List.filter p (List.range g)).length) (funext fun i => (beq_true _).symm)

/-- **The progress value is in `[0, 1]`** for every counter and target (including overshoot and `total = 0`). -/
theorem progress_in_unit_interval (num total : ℕ) : 0 ≤ progressOf num total ∧ progressOf num total ≤ 1 :=
  ⟨progressOf_nonneg num total, progressOf_le_one num total⟩

/-- it is `1 - num/total` up to the target and `0` from the target on -/
theorem progress_formula (num total : ℕ) (ht : 0 < total) :
    (num ≤ total → progressOf num total = 1 - (num : ℚ) / (total : ℚ)) ∧ (total ≤ num → progressOf num total = 0) :=
  ⟨progressOf_before num total, fun h => progressOf_after num total h ht⟩

/-- **Every progress value of every history is in `[0, 1]`**: what the schedules receive (`progress`, `train`
events) and what callbacks see in `_current_progress_remaining` (`rolloutStart`, `step`, `rolloutEnd`),
over any sequence of calls of a fresh algorithm. -/
theorem progress_values_in_unit_interval (cfg : Cfg) (ops : List Op) :
    ∀ e ∈ (run cfg State.init ops).2, ∀ p, e.prog = some p → 0 ≤ p ∧ p ≤ 1 :=
  unit_of_accepts (run_accepts cfg State.init ops (Clk.of State.init) (link_of _)) ⟨zero_le_one, le_refl 1⟩

/-- **A call that runs to its end leaves the progress at exactly `0`** (so every schedule has reached its final
value): any history of a fresh algorithm, whenever the last call made at least one step and was not stopped. -/
theorem progress_zero_after_completed_call (cfg : Cfg) (ops : List Op) :
    let s := (run cfg State.init ops).1
    s.running = false → s.stopped = false → s.start < s.num → s.progress = 0 := by
  intro s
  have inv : GenInv cfg s := genInv_run cfg State.init ops (genInv_init cfg)
  clear_value s
  intro hr hs hlt
  obtain ⟨hge, h⟩ := inv.fin hr hs
  rcases h with h | ⟨_, hb, _, hp⟩
  · omega
  · rw [hp]
    exact progressOf_after _ _ hge (by omega)

/-- **Progress is computed from the current clocks**: every progress update of every history is
`max(1 - num/total, 0)` for the counter value the last `step` announced and the target of the call. -/
theorem progress_is_clamped_fraction (cfg : Cfg) (s : State) (ops : List Op) :
    progressOk s.num s.total (run cfg s ops).2 :=
  progressOk_of_accepts (run_accepts cfg s ops (Clk.of s) (link_of s))

/-- **Progress never increases during a call**: between two `setup`s the stored values are non-increasing —
every history, every start state. -/
theorem progress_antitone_within_call (cfg : Cfg) (s : State) (ops : List Op) :
    antitoneOk none (run cfg s ops).2 :=
  antitoneOk_of_accepts (run_accepts cfg s ops (Clk.of s) (link_of s)) none nofun

/-- **Every update uses the schedule's value at the current progress**: the progress a `train()` turns into
the learning rate (and clip ranges) is the value stored by the most recent progress update of the same call —
never a stale value from an earlier call. In `lrOk last evs`, `last` is what the reader of `evs` takes that most
recent update to be before the first event (`none`: the call has made none yet). The statement holds for EVERY
`last` and from every start state, mid-rollout included, which says more than the sentence above: `last` is never
consulted, i.e. in the trace of `run` no `train` comes before the first `progress` (or `setup`) event. -/
theorem lr_is_schedule_of_progress (cfg : Cfg) (s : State) (ops : List Op) (last : Option ℚ) :
    lrOk last (run cfg s ops).2 :=
  lrOk_of_accepts (run_accepts cfg s ops (Clk.of s) (link_of s)) last nofun

/-- DQN's linear exploration schedule: starts at `initial`, reaches `final` once a fraction `f` of the call is
over, … -/
theorem linear_schedule_endpoints (a b f p : ℚ) (hf : 0 < f) :
    linearFn a b f 1 = a ∧ (f < 1 - p → linearFn a b f p = b) := by
  refine ⟨?_, fun h => if_pos h⟩
  rw [linearFn_eq a b f 1 hf, sub_self, zero_div, min_eq_right zero_le_one, zero_mul, add_zero]

/-- … stays between the two for every progress value `≤ 1`, … -/
theorem linear_schedule_bounds (a b f p : ℚ) (hf : 0 < f) (hp : p ≤ 1) :
    min a b ≤ linearFn a b f p ∧ linearFn a b f p ≤ max a b := by
  rw [linearFn_eq a b f p hf]
  exact lerp_bounds a b _ (le_min zero_le_one (div_nonneg (sub_nonneg.mpr hp) hf.le)) (min_le_left _ _)

/-- … and (for `final ≤ initial`) never increases when the progress decreases: this for all progress values, the
hypothesis `p ≤ 1` is not used. -/
theorem linear_schedule_monotone (a b f p p' : ℚ) (hf : 0 < f) (hab : b ≤ a) (hpp : p' ≤ p) (hp : p ≤ 1) :
    linearFn a b f p' ≤ linearFn a b f p :=
  linearFn_mono a b f p p' hf hab hpp

/-- Hence the exploration rate computed from any progress update of any history lies between
`exploration_final_eps` and `exploration_initial_eps`. -/
theorem exploration_rate_in_range (cfg : Cfg) (ops : List Op) (a b f : ℚ) (hf : 0 < f) :
    ∀ e ∈ (run cfg State.init ops).2, ∀ n t p, e = .progress n t p →
      min a b ≤ linearFn a b f p ∧ linearFn a b f p ≤ max a b := by
  intro e he n t p hp
  have := progress_values_in_unit_interval cfg ops e he p (by rw [hp]; rfl)
  exact linear_schedule_bounds a b f p hf this.2

/-! ## Agreement with the independently written loop model of C13 (`Model/Callback.lean`) -/

/-- Re-export of `C12C13.learn_loop_models_agree` (statement and translation functions: `Props/C12C13.lean`): for
every configuration, handler (callback tree), episode-end function and fuel, a `learn` call completed by the
`Callback.LS` machine and this model fed with the translated inputs show the same callback-visible trace and end with
the same counter and target. -/
theorem agrees_with_callback_loop_model {σ : Type} (cfg : Cfg) (dones : Callback.Dones)
    (hsz : 0 < LearnCallback.rolloutParam cfg) (st0 : State) (h0 : st0.running = false) (T : ℕ) (r : Bool) (g0 : ℕ)
    (h : σ → Callback.Call → σ × Bool) (cb : σ) (fuel : ℕ) :
    let s := Callback.LS.runN (LearnCallback.cbCfg cfg dones) h fuel (Callback.LS.setup st0.num g0 cb T r)
    let R := run cfg st0 (.learn T r :: LearnCallback.opsOf dones g0 s.trace)
    s.pc = .done →
      LearnCallback.projC s.trace = LearnCallback.projE R.2 ∧ R.1.running = false ∧ R.1.num = s.num ∧
        R.1.total = s.total :=
  C12C13.learn_loop_models_agree cfg dones hsz st0 h0 T r g0 h cb fuel

/-- … and over any sequence of `learn` calls, each machine threading its own state. -/
theorem agrees_with_callback_loop_model_seq {σ : Type} (cfg : Cfg) (dones : Callback.Dones)
    (hsz : 0 < LearnCallback.rolloutParam cfg) (h : σ → Callback.Call → σ × Bool)
    (cs : List LearnCallback.CallSpec) (g0 : ℕ) (cb : σ) :
    LearnCallback.SeqAgree cfg dones h State.init 0 g0 cb cs :=
  C12C13.learn_loop_models_agree_seq cfg dones hsz h cs g0 cb

/-! ## Non-vacuity: the hypotheses above are met by concrete, non-trivial runs -/

example : exPPO.kind = .on ⟨4, false, 3, 2⟩ ∧ 0 < exPPO.nEnvs ∧ State.init.running = false := ⟨rfl, by decide, rfl⟩
example : exDQN.kind = .off ⟨2, .step, -1, 8, 0⟩ ∧ (⟨2, .step, -1, 8, 0⟩ : OffCfg).unit = .step := ⟨rfl, rfl⟩
/-- the trace predicates are not trivially true -/
example : ¬ countsOk 2 0 [.step 3 1] := fun h => absurd h.1 (by decide)
example : ¬ antitoneOk none [.progress 1 2 (1 / 2), .progress 2 2 (3 / 4)] :=
  fun h => absurd (h.2.1 _ rfl) (by norm_num)
example : ¬ lrOk (some (1 / 2)) [.train 4 1 0 (1 / 4) 1] := by simp only [lrOk]; norm_num
example : ¬ progressOk 8 20 [.progress 8 20 (-1 / 5)] := by
  simp only [progressOk]
  rw [show progressOf 8 20 = 3 / 5 by decide +kernel]
  norm_num
example : ¬ rolloutStepsOk 0 [.step 1 1, .rolloutEnd 1 2 1] := fun h => absurd h.1 (by decide)
/-- PPO, 2 envs × 4 steps, `learn(20)`: three rollouts, overshoot to 24 (`8 ∤ 20`), 3·(2·3) optimizer steps -/
example : (run exPPO State.init (.learn 20 true :: quiet 12)).1.num = 24 := by decide +kernel
example : (run exPPO State.init (.learn 20 true :: quiet 12)).1.running = false := by decide +kernel
example : (run exPPO State.init (.learn 20 true :: quiet 12)).1.stopped = false := by decide +kernel
example : (run exPPO State.init (.learn 20 true :: quiet 12)).1.optSteps = 18 := by decide +kernel
example : 0 + exPPO.nEnvs * 4 * ceilDiv 20 (exPPO.nEnvs * 4) = 24 := by decide
example : ∀ op ∈ quiet 12, ∃ a d, op = Op.env a d [] := by
  intro op h; exact ⟨false, 0, by simpa [quiet] using (List.eq_of_mem_replicate h)⟩
/-- the last progress of that call would be `1 - 24/20 < 0` without the clamp -/
example : progressOf 24 20 = 0 ∧ progressOf 16 20 = 1 / 5 := by decide +kernel
/-- a second call without reset continues at 24 towards 24 + 5 and is stopped by the callback at its 3rd step -/
example :
    (run exPPO State.init (.learn 20 true :: quiet 12 ++ [.learn 5 false, .env false 0 [], .env false 0 [],
      .env true 0 []])).1 =
      { num := 30, total := 29, start := 24, progress := 0, nUpdates := 6, optSteps := 18, episodeNum := 0,
        running := false, stopped := true, colSteps := 2, colEps := 0 } := by decide +kernel
/-- DQN, 4 envs, `train_freq = 2`, `gradient_steps = -1`, `learning_starts = 8`, `learn(10)`: boundaries 8, 16;
no update at 8 (`8 > 8` is false), 8 gradient steps at 16 -/
example : trains (run exDQN State.init (.learn 10 true :: quiet 4)).2 = [(16, 8)] := by decide +kernel
example : (run exDQN State.init (.learn 10 true :: quiet 4)).1.num = 16 := by decide +kernel
example : gradStepsOf exDQN.nEnvs ⟨2, .step, -1, 8, 0⟩ 2 * (ceilDiv 10 8 - min (ceilDiv 10 8) ((8 - 0) / 8)) = 8 := by
  decide
/-- TD3, one episode per rollout: episodes of 2, 1 and 2 steps; updates only once `num > 2` -/
example :
    trains (run exTD3 State.init
      [.learn 4 true, .env false 0 [], .env false 1 [], .env false 1 [], .env false 0 [], .env false 1 []]).2 =
      [(3, 3), (5, 3)] := by decide +kernel
example : actorSteps 2 3 5 = 3 := by decide
/-- PPO, 2 epochs × 3 minibatches: the 5th minibatch (index 4, in epoch `4 / 3 = 1`) is the first whose KL exceeds —
4 optimizer steps, 2 updates counted; a later flag (index 5) changes nothing, a flag beyond the call's minibatches
is never reached -/
example : onTrainCounts 2 ⟨4, false, 3, 2⟩ [false, false, false, false, true, true] = (4, 2) := by decide
example : onTrainCounts 2 ⟨4, false, 3, 2⟩ [false, false, false, false, false, false, true] = (6, 2) := by decide
example : onTrainCounts 2 ⟨4, false, 3, 2⟩ [true] = (0, 1) := by decide
example : linearFn 1 (1 / 20) (1 / 10) (19 / 20) = 21 / 40 := by decide +kernel

/-- Re-export of `C08C12.dqn_updates_of_history` / `td3_updates_of_history` (`Props/C08C12.lean`): the trace of ANY
`learn()` history of this model, fed to C08's counter machine, makes exactly `⌊(n_calls₀ + K)/p⌋ − ⌊n_calls₀/p⌋` DQN
target updates (`K` = vectorised steps of the trace, `p = max (I / n_envs) 1`), no gradient step of DQN touches the
target, and TD3/DDPG make `⌊(u₀ + G)/delay⌋ − ⌊u₀/delay⌋` delayed updates (`G` = gradient steps of the trace). -/
theorem target_updates_of_learn_history {α : Type} (ccfg : Cadence.Cfg α) (c : Cadence.Ctr)
    (cfg : Cfg) (s : State) (ops : List Op) :
    (ccfg.algo = .dqn →
      (Cadence.envFlags (Cadence.ctrRun ccfg c (C08C12.toCtr (run cfg s ops).2)).2).count true =
        (c.nCalls + C08C12.stepCount (run cfg s ops).2) / Cadence.dqnEvery ccfg - c.nCalls / Cadence.dqnEvery ccfg ∧
      (Cadence.gradFlags (Cadence.ctrRun ccfg c (C08C12.toCtr (run cfg s ops).2)).2).count true = 0) ∧
    (ccfg.algo = .td3 →
      (Cadence.gradFlags (Cadence.ctrRun ccfg c (C08C12.toCtr (run cfg s ops).2)).2).count true =
        (c.nUpdates + C08C12.gradCount (run cfg s ops).2) / ccfg.delay - c.nUpdates / ccfg.delay) :=
  ⟨fun h => C08C12.dqn_updates_of_history ccfg h c cfg s ops, fun h => C08C12.td3_updates_of_history ccfg h c cfg s ops⟩

/-- Re-export of `C08C12.dqn_updates_of_stretch`: for any event list that moves the counter by `n` per step from `cur`
(`countsOk`) and has no `setup` event, i.e. a stretch without counter reset, the number of DQN target updates is the
one above with `K = (num_timesteps at its end − cur) / n`. -/
theorem dqn_updates_of_stretch {α : Type} (ccfg : Cadence.Cfg α) (h : ccfg.algo = .dqn) (c : Cadence.Ctr) (n cur : ℕ)
    (hn : 0 < n) (evs : List Ev) (hc : countsOk n cur evs) (hs : C08C12.noSetup evs = true) :
    (Cadence.envFlags (Cadence.ctrRun ccfg c (C08C12.toCtr evs)).2).count true =
      (c.nCalls + (C08C12.lastNum cur evs - cur) / n) / Cadence.dqnEvery ccfg - c.nCalls / Cadence.dqnEvery ccfg :=
  C08C12.dqn_updates_of_stretch ccfg h c n cur hn evs hc hs

end SB3Verif.C12
