/-
End-to-end composition of the off-policy collection model (C04, `SB3Verif/Model/OffPolicy.lean`) with the
replay-buffer model (C03, `SB3Verif/Model/Replay.lean`, read-only here): the adapter that turns the rows the
collection hands to `replay_buffer.add` into C03's `Op.add` operations, and the lemma that identifies what C03's
history holds at `(add a, env e)` with the sub-environment's own transition.

C03's payloads are opaque tags (`Nat`); the collection model's are vectors / scalars over `α`. The adapter is
generic in a `Tagging` (any three functions into `Nat`): every statement holds for every tagging, and reads as
"the sampled tag is the tag of the environment's value" — with an injective tagging the tag determines the value.
-/
import SB3Verif.Lemmas.OffPolicy
import SB3Verif.Lemmas.Replay

namespace SB3Verif.Lemmas.OffPolicyReplay

open SB3Verif.OffPolicy SB3Verif.Lemmas.OffPolicy

/-- how observations, stored actions and rewards are named by C03's tags -/
structure Tagging (α : Type) where
  obs : List α → Nat
  act : List α → Nat
  rew : α → Nat

section

variable {α : Type} [Add α] [Sub α] [Mul α] [Div α] [Neg α] [One α] [LT α] [DecidableLT α]

/-- column `e` of one `replay_buffer.add` call, as C03's `Trans` -/
def toTrans (T : Tagging α) (r : Row α) (e : Nat) : Replay.Trans :=
  { obs := T.obs (r.obs.getD e []), next := T.obs (r.nextObs.getD e []), act := T.act (r.action.getD e []),
    rew := ((r.reward[e]?).map T.rew).getD 0, done := r.done.getD e false, timeout := r.timeout.getD e false }

/-- one `replay_buffer.add` call as C03's `Row` (one `Trans` per entry of `dones`) -/
def toRow (T : Tagging α) (r : Row α) : Replay.Row := (List.range r.done.length).map (toTrans T r)

/-- the collection's add log as a C03 history -/
def toOps (T : Tagging α) (rows : List (Row α)) : List Replay.Op := rows.map fun r => Replay.Op.add (toRow T r)

/-- what the replay buffer *should* hold for the sub-environment's own transition `t` stored with action `b` -/
def transOf (T : Tagging α) (post : List α → List α) (t : Transition α) (b : List α) : Replay.Trans :=
  { obs := T.obs (post t.obs), next := T.obs (post t.next), act := T.act b, rew := T.rew t.rew,
    done := t.term || t.trunc, timeout := t.trunc && !t.term }

omit [Add α] [Sub α] [Mul α] [Div α] [Neg α] [One α] [LT α] [DecidableLT α] in
theorem histOf_toOps (T : Tagging α) (rows : List (Row α)) :
    Replay.histOf (toOps T rows) = rows.map (toRow T) := by
  suffices ∀ H, (toOps T rows).foldl Replay.histStep H = H ++ rows.map (toRow T) from this []
  induction rows with
  | nil => simp [toOps]
  | cons r rs ih =>
    intro H
    simp only [toOps, List.map_cons, List.foldl_cons, Replay.histStep] at ih ⊢
    rw [ih]
    simp

set_option linter.unusedSectionVars false in
theorem toOps_wf (T : Tagging α) (rows : List (Row α)) (n : Nat) (h : ∀ r ∈ rows, r.done.length = n) :
    (toOps T rows).all (Replay.Op.wf n) = true := by
  simp only [toOps, List.all_map, List.all_eq_true]
  intro r hr
  simp [Replay.Op.wf, toRow, h r hr]

/-- **The cell lemma**: in a state satisfying the collection invariant, what C03's history holds for add number
`a`, column `e` is the tagged version of sub-environment `e`'s own `a`-th transition (with the action stored next
to the one the environment received). -/
theorem cell_eq (T : Tagging α) (cfg : Cfg α) (s : Sys α) (hi : Inv cfg s) (a e : Nat)
    (ha : a < s.w.log.length) (he : e < cfg.nEnvs) :
    ∃ ts t o, s.w.log[a]? = some ts ∧ ts[e]? = some t ∧ s.st.trace[a]? = some o ∧
      o.action[e]? = some t.action ∧
      Replay.cellOf (s.st.buffer.map (toRow T)) a e = transOf T cfg.post t (o.row.action.getD e []) := by
  obtain ⟨ts, t, o, hts, ht, ho, hact, hd, h1, h2, h3, h4, h5⟩ := hi.cell ha he
  refine ⟨ts, t, o, hts, ht, ho, hact, ?_⟩
  have hrow : (s.st.buffer.map (toRow T)).getD a [] = toRow T o.row := by
    rw [St.buffer, List.map_map, List.getD_eq_getElem?_getD, List.getElem?_map, ho]
    rfl
  have hcell : (toRow T o.row).getD e default = toTrans T o.row e := by
    rw [toRow, List.getD_eq_getElem?_getD, List.getElem?_map, List.getElem?_range (hd ▸ he)]
    rfl
  rw [Replay.cellOf, hrow, hcell]
  simp only [toTrans, transOf, List.getD_eq_getElem?_getD, h1, h2, h3, h4, h5, Option.map_some, Option.getD_some]

theorem hist_length (T : Tagging α) {cfg : Cfg α} {s : Sys α} (hi : Inv cfg s) :
    (s.st.buffer.map (toRow T)).length = s.w.log.length := by
  rw [List.length_map, St.buffer, List.length_map, hi.trace_length]

/-- **Sampled ⇒ environment transition**, both buffer variants at once, in any state satisfying the collection
invariant: a drawable `(s, e)` is slot `a % cap` of one add `a` inside the ring's window; observation, reward,
action and done flag are those of sub-environment `e`'s own transition `t` of step `a`; the successor is `t`'s own
in the standard variant, and in the memory-optimised one for the newest add — otherwise it is whatever the next add
stored as its observation. -/
theorem sampled_cell (T : Tagging α) (cfg : Cfg α) (st : Sys α) (hi : Inv cfg st) (rc : Replay.Cfg)
    (hn : rc.nEnvs = cfg.nEnvs) (s e : ℕ) (h : (s, e) ∈ (Replay.run rc (toOps T st.st.buffer)).domain) :
    ∃ a ts t o, a < st.w.log.length ∧ st.w.log.length ≤ a + rc.cap ∧
      (rc.memopt = true → st.w.log.length < a + rc.cap) ∧ a % rc.cap = s ∧ e < cfg.nEnvs ∧
      st.w.log[a]? = some ts ∧ ts[e]? = some t ∧
      st.st.trace[a]? = some o ∧ o.action[e]? = some t.action ∧
      Replay.cellOf (st.st.buffer.map (toRow T)) a e = transOf T cfg.post t (o.row.action.getD e []) ∧
      ((Replay.run rc (toOps T st.st.buffer)).get s e).obs = T.obs (cfg.post t.obs) ∧
      ((Replay.run rc (toOps T st.st.buffer)).get s e).rew = T.rew t.rew ∧
      ((Replay.run rc (toOps T st.st.buffer)).get s e).act = T.act (o.row.action.getD e []) ∧
      ((Replay.run rc (toOps T st.st.buffer)).get s e).done =
        (if (t.term || t.trunc) && !(rc.hto && (t.trunc && !t.term)) then 1 else 0) ∧
      (rc.memopt = false →
        ((Replay.run rc (toOps T st.st.buffer)).get s e).next = T.obs (cfg.post t.next)) ∧
      (rc.memopt = true → ((Replay.run rc (toOps T st.st.buffer)).get s e).next =
        if a + 1 = st.w.log.length then T.obs (cfg.post t.next)
        else (Replay.cellOf (st.st.buffer.map (toRow T)) (a + 1) e).obs) := by
  have hb := Lemmas.Replay.inv_run rc (toOps T st.st.buffer)
  rw [histOf_toOps] at hb
  obtain ⟨hs, he⟩ := Lemmas.Replay.mem_domain.mp h
  obtain ⟨a, hw, rfl⟩ := Lemmas.Replay.slot_sound hb hs
  obtain ⟨g1, g2, g3, g4, g5, g6⟩ := Lemmas.Replay.get_spec hb hw e
  rw [hb.cfg_eq, hn] at he
  have hL := hist_length T hi
  obtain ⟨ts, t, o, h1, h2, h3, h4, hc⟩ := cell_eq T cfg st hi a e (hL ▸ hw.lt) he
  rw [hc] at g1 g2 g3 g4 g5 g6
  rw [hL] at g6
  exact ⟨a, ts, t, o, hL ▸ hw.lt, hL ▸ hw.recent, fun hm => hL ▸ hw.strict hm, rfl, he, h1, h2, h3, h4, hc,
    g1, g3, g2, g4, g5, g6⟩

/-- chaining of a history whose rows all have `n` entries is a condition on the columns `e < n` only (beyond them
every cell is the default one) -/
theorem chained_of_columns {H : List Replay.Row} {n : Nat} (hlen : ∀ r ∈ H, r.length = n)
    (h : ∀ a, a < H.length - 1 → ∀ e, e < n → (Replay.cellOf H a e).done = false →
      (Replay.cellOf H (a + 1) e).obs = (Replay.cellOf H a e).next) : Replay.Chained H := by
  intro a e ha hd
  by_cases he : e < n
  · exact h a (Nat.lt_sub_of_add_lt ha) e he hd
  · have hrow : ∀ a', (H.getD a' []).length ≤ e := fun a' => by
      rw [List.getD_eq_getElem?_getD]
      by_cases ha' : a' < H.length
      · rw [List.getElem?_eq_getElem ha', Option.getD_some, hlen _ (List.getElem_mem ha')]
        exact Nat.le_of_not_lt he
      · rw [List.getElem?_eq_none (Nat.le_of_not_lt ha')]
        exact Nat.zero_le e
    have hcell : ∀ a', Replay.cellOf H a' e = default := fun a' => by
      rw [Replay.cellOf, List.getD_eq_getElem?_getD, List.getElem?_eq_none (hrow a')]
      rfl
    rw [hcell, hcell]
    rfl

end

/-- integers (the examples use integer-valued observations / rewards, dyadic stored actions):
`q ↦ 2·|4q| + [q < 0]` is injective on the quarter-integers used -/
def exTagQ (q : ℚ) : Nat := 2 * (4 * q).num.natAbs + (if q < 0 then 1 else 0)

/-- first coordinate (the example observations / actions are one-dimensional) -/
def exTag : Tagging ℚ := ⟨fun o => exTagQ (o.headD 0), fun a => exTagQ (a.headD 0), exTagQ⟩

/-- two envs, box actions in `[-2, 6]`, no `VecNormalize`, `train_freq = 2` steps, two `learn()` calls (the second
continues without reset): 5 vectorised steps; env 0 terminates at step 1, env 1 is truncated at step 0 and ends
with `terminated ∧ truncated` at step 3 -/
def e2eCfg : Cfg ℚ := ⟨2, .box [-2] [6], 2, 2, false, false, false, id⟩
def e2eCalls : List (Call ℚ) :=
  [ ⟨true, 6, [[0], [100]], none,
      [ ⟨[[2], [6]], none, [⟨[1], 1, false, false, [], none⟩, ⟨[101], 2, false, true, [200], none⟩], none⟩,
        ⟨[[0], [-2]], none, [⟨[2], 3, true, false, [10], none⟩, ⟨[201], -1, false, false, [], none⟩], none⟩,
        ⟨[[2], [4]], none, [⟨[11], 0, false, false, [], some [2]⟩, ⟨[202], 5, false, false, [], none⟩], none⟩,
        ⟨[[6], [2]], none, [⟨[12], 1, false, false, [], none⟩, ⟨[203], 0, true, true, [300], none⟩], none⟩ ]⟩,
    ⟨false, 2, [[999], [999]], none,
      [ ⟨[[-2], [0]], none, [⟨[13], 2, false, false, [], none⟩, ⟨[301], 7, false, false, [], none⟩], none⟩ ]⟩ ]

/-- `buffer_size = 7`, two envs: capacity `7 // 2 = 3 < 5` adds — the ring wraps; timeout handling on -/
def e2eBuf : Replay.Cfg := ⟨7, 2, false, true, false⟩
/-- memory-optimised, capacity 3 -/
def e2eMem : Replay.Cfg := ⟨6, 2, true, false, false⟩

end SB3Verif.Lemmas.OffPolicyReplay
