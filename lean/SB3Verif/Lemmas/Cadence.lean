/-
Helper lemmas for C08 (model: `SB3Verif/Model/Cadence.lean`).

Counters: the three algorithms differ only in what one `_on_step` and one `train(G)` call do to the counters; the
counting over a whole history is done once (`loopCtr_closed`, `ctrRun_closed`) and instantiated per algorithm.
Counters + tensors: one lemma per level of the machine says what a successful step consists of; from these, level by
level, the decisions are those of the counter machine (`…_ctr`) and a tensor nobody writes keeps its value (`…_frame`).
-/
import SB3Verif.Model.Cadence
import SB3Verif.Lemmas.Polyak

namespace SB3Verif.Lemmas.Cadence

open SB3Verif.Polyak SB3Verif.Cadence SB3Verif.Lemmas.Polyak

theorem gradFlags_append (a b : List Ev) : gradFlags (a ++ b) = gradFlags a ++ gradFlags b := by
  induction a with
  | nil => rfl
  | cons e r ih => cases e <;> [exact ih; exact congrArg (_ :: ·) ih]

theorem envFlags_append (a b : List Ev) : envFlags (a ++ b) = envFlags a ++ envFlags b := by
  induction a with
  | nil => rfl
  | cons e r ih => cases e <;> [exact congrArg (_ :: ·) ih; exact ih]

theorem gradFlags_map_grad (fs : List Bool) : gradFlags (fs.map Ev.grad) = fs := by
  induction fs with
  | nil => rfl
  | cons f r ih => exact congrArg (f :: ·) ih

theorem envFlags_map_grad (fs : List Bool) : envFlags (fs.map Ev.grad) = [] := by
  induction fs with
  | nil => rfl
  | cons f r ih => exact ih

theorem map_range_succ {β : Type} (f : Nat → β) (k : Nat) :
    (List.range (k + 1)).map f = f 0 :: (List.range k).map fun i => f (i + 1) := by
  rw [List.range_succ_eq_map, List.map_cons, List.map_map]; rfl

theorem map_range_add {β : Type} (f : Nat → β) (a b : Nat) :
    (List.range (a + b)).map f = (List.range a).map f ++ (List.range b).map fun j => f (a + j) := by
  rw [List.range_add, List.map_append, List.map_map]; rfl

section ctr
variable {α : Type}

theorem loopCtr_succ (cfg : Cfg α) (c : Ctr) (g k : Nat) :
    loopCtr cfg c g (k + 1) =
      ((loopCtr cfg (iterCtr cfg c g).1 (g + 1) k).1,
        (iterCtr cfg c g).2 :: (loopCtr cfg (iterCtr cfg c g).1 (g + 1) k).2) := rfl

theorem ctrStep_envStep (cfg : Cfg α) (c : Ctr) :
    ctrStep cfg c .envStep = ((onStepCtr cfg c).1, [Ev.env (onStepCtr cfg c).2]) := rfl

theorem ctrStep_train (cfg : Cfg α) (c : Ctr) (G : Nat) :
    ctrStep cfg c (.train G) =
      (endTrainCtr cfg (loopCtr cfg c 0 G).1 G, (loopCtr cfg c 0 G).2.map Ev.grad) := rfl

theorem ctrRun_cons (cfg : Cfg α) (c : Ctr) (op : CtrOp) (ops : List CtrOp) :
    ctrRun cfg c (op :: ops) =
      ((ctrRun cfg (ctrStep cfg c op).1 ops).1,
        (ctrStep cfg c op).2 ++ (ctrRun cfg (ctrStep cfg c op).1 ops).2) := rfl

/-- The loop of `train()`: when every iteration adds `e` to `_n_updates` and decides by `R _n_updates g`,
`k` iterations from `g` on add `e * k` and decide by `R (_n_updates + e * i) (g + i)`, `i < k`. -/
theorem loopCtr_closed (cfg : Cfg α) (e : Nat) (R : Nat → Nat → Bool)
    (hit : ∀ c g, iterCtr cfg c g = ({ c with nUpdates := c.nUpdates + e }, R c.nUpdates g))
    (c : Ctr) (g k : Nat) :
    loopCtr cfg c g k =
      ({ c with nUpdates := c.nUpdates + e * k },
        (List.range k).map fun i => R (c.nUpdates + e * i) (g + i)) := by
  induction k generalizing c g with
  | zero => rfl
  | succ k ih =>
    rw [loopCtr_succ, hit, ih, map_range_succ]
    simp only [Nat.mul_succ, Nat.add_assoc, Nat.add_comm e, Nat.add_comm 1]
    rfl

theorem ctrStep_train_sac (cfg : Cfg α) (h : cfg.algo = .sac) (c : Ctr) (G : Nat) :
    ctrStep cfg c (.train G) =
      ({ c with nUpdates := c.nUpdates + G },
        ((List.range G).map fun i => (c.nUpdates + i) % cfg.interval == 0).map Ev.grad) := by
  rw [ctrStep_train, loopCtr_closed cfg 0 (fun u g => (u + g) % cfg.interval == 0)
    (fun c g => by simp only [iterCtr, h]; rfl)]
  simp only [endTrainCtr, h, Nat.zero_mul, Nat.add_zero, Nat.zero_add]

theorem ctrStep_train_td3 (cfg : Cfg α) (h : cfg.algo = .td3) (c : Ctr) (G : Nat) :
    ctrStep cfg c (.train G) =
      ({ c with nUpdates := c.nUpdates + G },
        ((List.range G).map fun i => (c.nUpdates + i + 1) % cfg.delay == 0).map Ev.grad) := by
  rw [ctrStep_train, loopCtr_closed cfg 1 (fun u _ => (u + 1) % cfg.delay == 0)
    (fun c g => by simp only [iterCtr, h])]
  simp only [endTrainCtr, h, Nat.one_mul]

theorem ctrStep_train_dqn (cfg : Cfg α) (h : cfg.algo = .dqn) (c : Ctr) (G : Nat) :
    ctrStep cfg c (.train G) =
      ({ c with nUpdates := c.nUpdates + G }, ((List.range G).map fun _ => false).map Ev.grad) := by
  rw [ctrStep_train, loopCtr_closed cfg 0 (fun _ _ => false) (fun c g => by simp only [iterCtr, h]; rfl)]
  simp only [endTrainCtr, h, Nat.zero_mul, Nat.add_zero]

/-- Whole histories: if `_on_step` adds `d` to `_n_calls` and decides by `Q _n_calls`, and a `train(G)` call
adds `G` to `_n_updates` and decides its `i`-th gradient step by `P (_n_updates + i)`, then gradient step `j` of
the history is decided by `P (_n_updates₀ + j)` and environment step `k` by `Q (_n_calls₀ + d * k)`, however
the two kinds of operation are interleaved. -/
theorem ctrRun_closed (cfg : Cfg α) (d : Nat) (P Q : Nat → Bool)
    (henv : ∀ c, onStepCtr cfg c = ({ c with nCalls := c.nCalls + d }, Q c.nCalls))
    (htrain : ∀ c G, ctrStep cfg c (.train G) =
      ({ c with nUpdates := c.nUpdates + G }, ((List.range G).map fun i => P (c.nUpdates + i)).map Ev.grad))
    (c : Ctr) (ops : List CtrOp) :
    (ctrRun cfg c ops).1 =
      { nCalls := c.nCalls + d * totalEnv ops, nUpdates := c.nUpdates + totalGrad ops } ∧
    gradFlags (ctrRun cfg c ops).2 = (List.range (totalGrad ops)).map (fun j => P (c.nUpdates + j)) ∧
    envFlags (ctrRun cfg c ops).2 = (List.range (totalEnv ops)).map (fun k => Q (c.nCalls + d * k)) := by
  induction ops generalizing c with
  | nil => exact ⟨rfl, rfl, rfl⟩
  | cons op ops ih =>
    rw [ctrRun_cons]
    cases op with
    | envStep =>
      rw [ctrStep_envStep, henv]
      obtain ⟨i1, i2, i3⟩ := ih { c with nCalls := c.nCalls + d }
      refine ⟨i1.trans ?_, i2, (congrArg (Q c.nCalls :: ·) i3).trans ?_⟩
      · simp only [totalEnv, Nat.add_comm 1, Nat.mul_succ, Nat.add_assoc, Nat.add_comm d]; rfl
      · simp only [totalEnv, Nat.add_comm 1, map_range_succ, Nat.mul_succ, Nat.add_assoc, Nat.add_comm d]; rfl
    | train G =>
      rw [htrain]
      obtain ⟨i1, i2, i3⟩ := ih { c with nUpdates := c.nUpdates + G }
      refine ⟨i1.trans ?_, ?_, ?_⟩
      · simp only [totalGrad, Nat.add_assoc]; rfl
      · rw [gradFlags_append, gradFlags_map_grad, i2]
        simp only [totalGrad, map_range_add, Nat.add_assoc]
      · rw [envFlags_append, envFlags_map_grad]; exact i3

end ctr

section store
variable {α : Type} [Add α] [Sub α] [Mul α] [One α]

theorem applyGroups_cons {cfg : Cfg α} {g : Group} {gs : List Group} {s s' : Store α}
    (h : applyGroups cfg (g :: gs) s = some s') :
    ∃ s1, polyakGroup (if g.soft then cfg.tau else 1) g.online g.target s = some s1 ∧
      applyGroups cfg gs s1 = some s' := by
  unfold applyGroups at h
  split at h
  · exact ⟨_, ‹_›, h⟩
  · cases h

theorem applyGroups_frame {cfg : Cfg α} {gs : List Group} {s s' : Store α}
    (h : applyGroups cfg gs s = some s') (m : String) (hm : m ∉ allTargets gs) :
    s'.lookup m = s.lookup m := by
  induction gs generalizing s with
  | nil => cases h; rfl
  | cons g rest ih =>
    obtain ⟨s1, hg, hr⟩ := applyGroups_cons h
    exact (ih hr fun hc => hm (List.mem_append_right _ hc)).trans
      (polyakGroup_frame hg m fun hc => hm (List.mem_append_left _ hc))

/-- as `polyakPairs_rule`, one level up: the groups before `g` leave what it reads alone, the groups after it
leave what it wrote alone -/
theorem applyGroups_rule {cfg : Cfg α} {gs : List Group} {s s' : Store α}
    (h : applyGroups cfg gs s = some s')
    (hnd : (allTargets gs).Nodup) (hdis : ∀ o ∈ allOnline gs, o ∉ allTargets gs)
    (g : Group) (hg : g ∈ gs) (p : String × String) (hp : p ∈ g.online.zip g.target) :
    SetByRule (if g.soft then cfg.tau else 1) s s' p := by
  induction gs generalizing s with
  | nil => cases hg
  | cons g0 rest ih =>
    obtain ⟨s1, hg0, hr⟩ := applyGroups_cons h
    obtain ⟨hnd0, hndr, hcross⟩ := List.nodup_append.1 hnd
    obtain ⟨hp1, hp2⟩ := List.of_mem_zip hp
    rcases List.mem_cons.mp hg with rfl | hin
    · exact (polyakGroup_rule hg0 hnd0
        (fun o ho hc => hdis o (List.mem_append_left _ ho) (List.mem_append_left _ hc)) p hp).congr rfl rfl
        (applyGroups_frame hr _ fun hc => hcross _ hp2 _ hc rfl)
    · exact (ih hr hndr
        (fun o ho hc => hdis o (List.mem_append_right _ ho) (List.mem_append_right _ hc)) hin).congr
        (polyakGroup_frame hg0 _ fun hc => hdis _
          (List.mem_append_right _ (List.mem_flatMap.2 ⟨g, hin, hp1⟩)) (List.mem_append_left _ hc))
        (polyakGroup_frame hg0 _ fun hc => hcross _ hc _ (List.mem_flatMap.2 ⟨g, hin, hp2⟩) rfl) rfl

theorem onStep_some {cfg : Cfg α} {st st' : St α} {f : Bool} (h : onStep cfg st = some (st', f)) :
    onStepCtr cfg st.ctr = (st'.ctr, f) ∧
      (f = true → applyGroups cfg cfg.groups st.store = some st'.store) ∧
      (f = false → st'.store = st.store) := by
  unfold onStep at h
  generalize onStepCtr cfg st.ctr = cf at h ⊢
  obtain ⟨c', f'⟩ := cf
  cases f'
  · cases h
    exact ⟨rfl, nofun, fun _ => rfl⟩
  · dsimp only at h
    rw [if_pos rfl] at h
    split at h
    · cases h; exact ⟨rfl, fun _ => ‹_›, nofun⟩
    · cases h

theorem iterStep_some {cfg : Cfg α} {st st' : St α} {g : Nat} {it : Iter α} {f : Bool}
    (h : iterStep cfg st g it = some (st', f)) :
    iterCtr cfg st.ctr g = (st'.ctr, f) ∧
      (f = true → applyGroups cfg cfg.groups (applyWrites it.delayed (applyWrites it.pre st.store)) =
        some st'.store) ∧
      (f = false → st'.store = applyWrites it.pre st.store) := by
  unfold iterStep at h
  generalize iterCtr cfg st.ctr g = cf at h ⊢
  obtain ⟨c', f'⟩ := cf
  cases f'
  · cases h
    exact ⟨rfl, nofun, fun _ => rfl⟩
  · dsimp only at h
    rw [if_pos rfl] at h
    split at h
    · cases h; exact ⟨rfl, fun _ => ‹_›, nofun⟩
    · cases h

theorem loopStep_cons {cfg : Cfg α} {st st' : St α} {g : Nat} {it : Iter α} {its : List (Iter α)}
    {fs : List Bool} (h : loopStep cfg st g (it :: its) = some (st', fs)) :
    ∃ st1 f fs', iterStep cfg st g it = some (st1, f) ∧ loopStep cfg st1 (g + 1) its = some (st', fs') ∧
      fs = f :: fs' := by
  unfold loopStep at h
  split at h
  · split at h
    · cases h; exact ⟨_, _, _, ‹_›, ‹_›, rfl⟩
    · cases h
  · cases h

theorem step_envStep {cfg : Cfg α} {st st' : St α} {evs : List Ev}
    (h : step cfg st .envStep = some (st', evs)) :
    ∃ f, onStep cfg st = some (st', f) ∧ evs = [Ev.env f] := by
  rw [step] at h
  split at h
  · cases h; exact ⟨_, ‹_›, rfl⟩
  · cases h

theorem step_train {cfg : Cfg α} {st st' : St α} {iters : List (Iter α)} {evs : List Ev}
    (h : step cfg st (.train iters) = some (st', evs)) :
    ∃ st1 fs, loopStep cfg st 0 iters = some (st1, fs) ∧
      st' = { st1 with ctr := endTrainCtr cfg st1.ctr iters.length } ∧ evs = fs.map Ev.grad := by
  rw [step] at h
  split at h
  · cases h; exact ⟨_, _, ‹_›, rfl, rfl⟩
  · cases h

theorem run_cons {cfg : Cfg α} {st st' : St α} {op : Op α} {ops : List (Op α)} {evs : List Ev}
    (h : run cfg st (op :: ops) = some (st', evs)) :
    ∃ st1 e1 e2, step cfg st op = some (st1, e1) ∧ run cfg st1 ops = some (st', e2) ∧ evs = e1 ++ e2 := by
  unfold run at h
  split at h
  · split at h
    · cases h; exact ⟨_, _, _, ‹_›, ‹_›, rfl⟩
    · cases h
  · cases h

theorem loopStep_ctr {cfg : Cfg α} {st st' : St α} {g : Nat} {its : List (Iter α)} {fs : List Bool}
    (h : loopStep cfg st g its = some (st', fs)) : loopCtr cfg st.ctr g its.length = (st'.ctr, fs) := by
  induction its generalizing st g fs with
  | nil => cases h; rfl
  | cons it its ih =>
    obtain ⟨st1, f, fs', h1, h2, rfl⟩ := loopStep_cons h
    rw [List.length_cons, loopCtr_succ, (iterStep_some h1).1, ih h2]

theorem step_ctr {cfg : Cfg α} {st st' : St α} {op : Op α} {evs : List Ev}
    (h : step cfg st op = some (st', evs)) : ctrStep cfg st.ctr op.shape = (st'.ctr, evs) := by
  cases op with
  | envStep =>
    obtain ⟨f, h1, rfl⟩ := step_envStep h
    exact congrArg (fun cf : Ctr × Bool => (cf.1, [Ev.env cf.2])) (onStep_some h1).1
  | train iters =>
    obtain ⟨st1, fs, h1, rfl, rfl⟩ := step_train h
    rw [Op.shape, ctrStep_train, loopStep_ctr h1]

theorem iterStep_frame {cfg : Cfg α} {st st' : St α} {g : Nat} {it : Iter α} {f : Bool}
    (h : iterStep cfg st g it = some (st', f)) (n : String) (hu : it.untouched n)
    (hn : n ∈ allTargets cfg.groups → f = false) :
    st'.store.lookup n = st.store.lookup n := by
  obtain ⟨-, ht, hf⟩ := iterStep_some h
  cases f
  · rw [hf rfl]; exact lookup_applyWrites_not_owned hu.1
  · rw [applyGroups_frame (ht rfl) n (fun hc => nomatch hn hc),
      lookup_applyWrites_not_owned hu.2, lookup_applyWrites_not_owned hu.1]

theorem loopStep_frame {cfg : Cfg α} {st st' : St α} {g : Nat} {its : List (Iter α)} {fs : List Bool}
    (h : loopStep cfg st g its = some (st', fs)) (n : String) (hu : ∀ it ∈ its, it.untouched n)
    (hn : n ∈ allTargets cfg.groups → ∀ f ∈ fs, f = false) :
    st'.store.lookup n = st.store.lookup n := by
  induction its generalizing st g fs with
  | nil => cases h; rfl
  | cons it its ih =>
    obtain ⟨st1, f, fs', h1, h2, rfl⟩ := loopStep_cons h
    obtain ⟨hu0, hus⟩ := List.forall_mem_cons.1 hu
    exact (ih h2 hus fun hc => (List.forall_mem_cons.1 (hn hc)).2).trans
      (iterStep_frame h1 n hu0 fun hc => (List.forall_mem_cons.1 (hn hc)).1)

theorem step_frame {cfg : Cfg α} {st st' : St α} {op : Op α} {evs : List Ev}
    (h : step cfg st op = some (st', evs)) (n : String) (hu : op.untouched n)
    (hn : n ∈ allTargets cfg.groups → ∀ e ∈ evs, e.fired = false) :
    st'.store.lookup n = st.store.lookup n := by
  cases op with
  | envStep =>
    obtain ⟨f, h1, rfl⟩ := step_envStep h
    obtain ⟨-, ht, hf⟩ := onStep_some h1
    cases f
    · rw [hf rfl]
    · exact applyGroups_frame (ht rfl) n fun hc => nomatch hn hc _ (List.mem_singleton_self _)
  | train iters =>
    obtain ⟨st1, fs, h1, rfl, rfl⟩ := step_train h
    exact loopStep_frame h1 n hu fun hc f hf => hn hc (Ev.grad f) (List.mem_map_of_mem hf)

theorem run_frame {cfg : Cfg α} {st st' : St α} {ops : List (Op α)} {evs : List Ev}
    (h : run cfg st ops = some (st', evs)) (n : String) (hu : ∀ op ∈ ops, op.untouched n)
    (hn : n ∈ allTargets cfg.groups → ∀ e ∈ evs, e.fired = false) :
    st'.store.lookup n = st.store.lookup n := by
  induction ops generalizing st evs with
  | nil => cases h; rfl
  | cons op ops ih =>
    obtain ⟨st1, e1, e2, h1, h2, rfl⟩ := run_cons h
    obtain ⟨hu0, hus⟩ := List.forall_mem_cons.1 hu
    exact (ih h2 hus fun hc => (List.forall_mem_append.1 (hn hc)).2).trans
      (step_frame h1 n hu0 fun hc => (List.forall_mem_append.1 (hn hc)).1)

end store

/-- the number of `k < K` with `(a + k + 1) % p = 0` is the number of multiples of `p` in `(a, a + K]` -/
theorem count_multiples (a p K : ℕ) :
    ((List.range K).map (fun k => (a + k + 1) % p == 0)).count true = (a + K) / p - a / p := by
  induction K with
  | zero => exact (Nat.sub_self _).symm
  | succ K ih =>
    -- one more `k`: the count grows by one iff `p ∣ a + K + 1`, and so does the quotient (`Nat.succ_div`)
    rw [List.range_succ, List.map_append, List.count_append, ih, List.map_singleton, List.count_singleton,
      ← Nat.add_assoc, Nat.succ_div, Nat.sub_add_comm (Nat.div_le_div_right (Nat.le_add_right a K))]
    congr 1
    exact if_congr (by rw [beq_iff_eq, beq_iff_eq, Nat.dvd_iff_mod_eq_zero]) rfl rfl

/-- the same count for `(a + k) % p = 0`, `0 < p`: shift the window down by one, i.e. `a` up by `p - 1` -/
theorem count_multiples_from (a p K : ℕ) (hp : 0 < p) :
    ((List.range K).map (fun k => (a + k) % p == 0)).count true = (a + p - 1 + K) / p - (a + p - 1) / p := by
  obtain ⟨q, rfl⟩ := Nat.exists_eq_succ_of_ne_zero hp.ne'
  have (k : ℕ) : (a + (q + 1) - 1 + k + 1) % (q + 1) = (a + k) % (q + 1) := by
    rw [show a + (q + 1) - 1 + k + 1 = a + q + k + 1 from rfl, Nat.add_right_comm a q k,
      Nat.add_assoc (a + k), Nat.add_mod_right]
  rw [← count_multiples]
  simp only [this]

end SB3Verif.Lemmas.Cadence
