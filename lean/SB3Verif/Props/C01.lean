/-
C01 — VecEnv episode-boundary contract (auto-reset, terminal_observation, truncation, reset_infos, seeds/options).

Property theorems and, at the end, concrete histories with `example`s about them (helper lemmas are in
`SB3Verif/Lemmas/VecEnv.lean`). All statements are about the executable model `SB3Verif/Model/VecEnv.lean`, whose
definitions the driver `SB3Verif/Driver/C01.lean` runs against the real `DummyVecEnv` / `SubprocVecEnv`.

Reading guide. `v : Vec ω ρ` is EITHER implementation (`Vec.dummy` = staging-buffer loops, `Vec.subproc` = workers
with a private `reset_info` + unzip of the replies); `v.WF` holds for the initial state and is kept by every
operation (`wf_invariant`), so every theorem holds at every reachable state, for every number of sub-environments
`v.n`, every observation type `ω` (all space kinds) and every reward type `ρ`. What the sub-environments answered
(`xs : List (StepResp ω ρ)`, `zs : List (ResetRes ω)`) is universally quantified: every episode script, including
length-1 episodes and `terminated ∧ truncated`.
-/
import SB3Verif.Lemmas.VecEnv

namespace SB3Verif.C01

open SB3Verif.VecEnv SB3Verif.VecEnvLemmas

variable {ω ρ : Type}

/-- **done = terminated or truncated**, for sub-environment `i`'s own flags. -/
theorem step_done (v : Vec ω ρ) (hwf : v.WF) (acts : List Int) (xs : List (StepResp ω ρ))
    (hv : (Op.step acts xs).valid v.n = true) (i : Nat) (hi : i < v.n) (a : Int) (x : StepResp ω ρ)
    (ha : acts[i]? = some a) (hx : xs[i]? = some x) :
    (v.step acts xs).2.dones[i]? = some (x.raw.terminated || x.raw.truncated) := by
  rw [(step_at v hwf acts xs hv i a x ha hx).done, (spec_step_basic _ a x).1]; rfl

/-- **infos[i]["TimeLimit.truncated"] = truncated and not terminated** (whatever the sub-environment had put under
that key itself). -/
theorem step_truncated_flag (v : Vec ω ρ) (hwf : v.WF) (acts : List Int) (xs : List (StepResp ω ρ))
    (hv : (Op.step acts xs).valid v.n = true) (i : Nat) (hi : i < v.n) (a : Int) (x : StepResp ω ρ)
    (ha : acts[i]? = some a) (hx : xs[i]? = some x) :
    ((v.step acts xs).2.infos[i]?).bind (dictGet · "TimeLimit.truncated") =
      some (Val.bool (x.raw.truncated && !x.raw.terminated)) := by
  rw [(step_at v hwf acts xs hv i a x ha hx).info, (spec_step_basic _ a x).2.2]
  exact stepInfo_truncated x.raw

/-- **reward pass-through**: the reward returned for `i` is the one sub-environment `i` produced. -/
theorem step_reward (v : Vec ω ρ) (hwf : v.WF) (acts : List Int) (xs : List (StepResp ω ρ))
    (hv : (Op.step acts xs).valid v.n = true) (i : Nat) (hi : i < v.n) (a : Int) (x : StepResp ω ρ)
    (ha : acts[i]? = some a) (hx : xs[i]? = some x) :
    (v.step acts xs).2.rews[i]? = some (some x.raw.rew) := by
  rw [(step_at v hwf acts xs hv i a x ha hx).rew, (spec_step_basic _ a x).2.1]

/-- **episode continues**: the returned observation is `i`'s own step observation, no `terminal_observation` is
added, `reset_infos[i]` is untouched, and sub-environment `i` received exactly one call: `step(actions[i])`. -/
theorem step_episode_continues (v : Vec ω ρ) (hwf : v.WF) (acts : List Int) (xs : List (StepResp ω ρ))
    (hv : (Op.step acts xs).valid v.n = true) (i : Nat) (hi : i < v.n) (a : Int) (x : StepResp ω ρ)
    (ha : acts[i]? = some a) (hx : xs[i]? = some x) (hnd : (x.raw.terminated || x.raw.truncated) = false) :
    (v.step acts xs).2.obs[i]? = some (some x.raw.obs) ∧
    ((v.step acts xs).2.infos[i]?).bind (dictGet · "terminal_observation") = dictGet x.raw.info "terminal_observation" ∧
    (v.step acts xs).2.resetInfos[i]? = v.resetInfos[i]? ∧
    (v.step acts xs).1.resetInfos[i]? = v.resetInfos[i]? ∧
    (v.step acts xs).2.calls[i]? = some [Call.step a] := by
  have r := step_at v hwf acts xs hv i a x ha hx
  have hd : x.raw.done = false := hnd
  obtain ⟨c1, c2, c3⟩ := spec_step_cont (v.abs i) a x hd
  have hri : v.resetInfos[i]? = some (v.abs i).resetInfo :=
    vec_resetInfos_abs v i (by rw [wf_resetInfos_length v hwf]; exact hi)
  refine ⟨by rw [r.obs, c1], ?_, by rw [r.resetInfo, c2, hri], by rw [r.stateResetInfo, c2, hri], by rw [r.calls, c3]⟩
  rw [r.info, (spec_step_basic _ a x).2.2]
  exact stepInfo_no_terminal x.raw hd

/-- **episode ends** (`terminated`, `truncated` or both — also for an episode of length 1): the returned observation
is the first observation of `i`'s next episode (what `i`'s `reset()` answered), `infos[i]["terminal_observation"]` is the
last observation of the finished episode, `reset_infos[i]` is the info of that automatic reset, and sub-environment `i`
received exactly `step(actions[i])` followed by one argument-less `reset()` (no seed, no options). -/
theorem step_episode_ends (v : Vec ω ρ) (hwf : v.WF) (acts : List Int) (xs : List (StepResp ω ρ))
    (hv : (Op.step acts xs).valid v.n = true) (i : Nat) (hi : i < v.n) (a : Int) (x : StepResp ω ρ)
    (ha : acts[i]? = some a) (hx : xs[i]? = some x) (hd : (x.raw.terminated || x.raw.truncated) = true)
    (z : ResetRes ω) (hz : x.rst = some z) :
    (v.step acts xs).2.obs[i]? = some (some z.obs) ∧
    ((v.step acts xs).2.infos[i]?).bind (dictGet · "terminal_observation") = some (Val.obs x.raw.obs) ∧
    (v.step acts xs).2.resetInfos[i]? = some z.info ∧
    (v.step acts xs).1.resetInfos[i]? = some z.info ∧
    (v.step acts xs).2.calls[i]? = some [Call.step a, Call.reset none none] := by
  have r := step_at v hwf acts xs hv i a x ha hx
  have hd' : x.raw.done = true := hd
  obtain ⟨c1, c2, c3⟩ := spec_step_end (v.abs i) a x z hd' hz
  refine ⟨by rw [r.obs, c1], ?_, by rw [r.resetInfo, c2], by rw [r.stateResetInfo, c2], by rw [r.calls, c3]⟩
  rw [r.info, (spec_step_basic _ a x).2.2]
  exact stepInfo_terminal x.raw hd'

/-- Inside the model's domain an ended episode always comes with the answer of its `reset()`:
the hypothesis `x.rst = some z` of `step_episode_ends` is implied by validity. -/
theorem step_episode_ends_has_reset (n : Nat) (acts : List Int) (xs : List (StepResp ω ρ))
    (hv : (Op.step acts xs).valid n = true) (i : Nat) (x : StepResp ω ρ) (hx : xs[i]? = some x)
    (hd : (x.raw.terminated || x.raw.truncated) = true) : ∃ z, x.rst = some z := by
  simp only [Op.valid, Bool.and_eq_true, List.all_eq_true] at hv
  have h := hv.2 x (List.mem_of_getElem? hx)
  rw [show x.raw.done = true from hd] at h
  exact Option.isSome_iff_exists.mp (eq_of_beq h)

/-- **every other info key passes through unchanged.** -/
theorem step_info_passthrough (v : Vec ω ρ) (hwf : v.WF) (acts : List Int) (xs : List (StepResp ω ρ))
    (hv : (Op.step acts xs).valid v.n = true) (i : Nat) (hi : i < v.n) (a : Int) (x : StepResp ω ρ)
    (ha : acts[i]? = some a) (hx : xs[i]? = some x) (k : String) (h1 : k ≠ "TimeLimit.truncated")
    (h2 : k ≠ "terminal_observation") :
    ((v.step acts xs).2.infos[i]?).bind (dictGet · k) = dictGet x.raw.info k := by
  rw [(step_at v hwf acts xs hv i a x ha hx).info, (spec_step_basic _ a x).2.2]
  exact stepInfo_other x.raw k h1 h2

/-- The info dictionary stays a dictionary (keys unique) when the sub-environment's was. -/
theorem step_info_keys_unique (r : Raw ω ρ) (h : (r.info.map (·.1)).Nodup) : ((stepInfo r).map (·.1)).Nodup := by
  unfold stepInfo
  split
  · exact dictSet_keys_nodup _ _ _ (dictSet_keys_nodup _ _ _ h)
  · exact dictSet_keys_nodup _ _ _ h

/-- **no cross-talk, and both implementations agree**: what a step returns for sub-environment `i` (observation,
reward, done, info, reset info, calls made) is determined by `i`'s own action, `i`'s own answers and `i`'s own previous
reset info — for two arbitrary vectorised environments (Dummy or Subproc, different sizes, different other
sub-environments, different staging-buffer contents). -/
theorem step_own (v w : Vec ω ρ) (hv : v.WF) (hw : w.WF) (acts acts' : List Int) (xs xs' : List (StepResp ω ρ))
    (hval : (Op.step acts xs).valid v.n = true) (hval' : (Op.step acts' xs').valid w.n = true)
    (i : Nat) (hi : i < v.n) (hi' : i < w.n)
    (hacts : acts[i]? = acts'[i]?) (hxs : xs[i]? = xs'[i]?) (hri : v.resetInfos[i]? = w.resetInfos[i]?) :
    (v.step acts xs).2.obs[i]? = (w.step acts' xs').2.obs[i]? ∧
    (v.step acts xs).2.rews[i]? = (w.step acts' xs').2.rews[i]? ∧
    (v.step acts xs).2.dones[i]? = (w.step acts' xs').2.dones[i]? ∧
    (v.step acts xs).2.infos[i]? = (w.step acts' xs').2.infos[i]? ∧
    (v.step acts xs).2.resetInfos[i]? = (w.step acts' xs').2.resetInfos[i]? ∧
    (v.step acts xs).2.calls[i]? = (w.step acts' xs').2.calls[i]? := by
  obtain ⟨hla, hlx⟩ := valid_step hval
  obtain ⟨a, ha⟩ : ∃ a, acts[i]? = some a := ⟨_, List.getElem?_eq_getElem (hla ▸ hi)⟩
  obtain ⟨x, hx⟩ : ∃ x, xs[i]? = some x := ⟨_, List.getElem?_eq_getElem (hlx ▸ hi)⟩
  have r := step_at v hv acts xs hval i a x ha hx
  have r' := step_at w hw acts' xs' hval' i a x (hacts.symm.trans ha) (hxs.symm.trans hx)
  -- the specification's step output does not look at the pending seed / options
  have k := apply_step_out_congr (v.abs i) (w.abs i) (congrArg (Option.getD · []) hri) a x
  exact ⟨by rw [r.obs, r'.obs, k], by rw [r.rew, r'.rew, k], by rw [r.done, r'.done, k], by rw [r.info, r'.info, k],
    by rw [r.resetInfo, r'.resetInfo, k], by rw [r.calls, r'.calls, k]⟩

/-- every array a step returns has exactly one entry per sub-environment -/
theorem step_shapes (v : Vec ω ρ) (hwf : v.WF) (acts : List Int) (xs : List (StepResp ω ρ))
    (hv : (Op.step acts xs).valid v.n = true) :
    (v.step acts xs).2.obs.length = v.n ∧ (v.step acts xs).2.rews.length = v.n ∧
    (v.step acts xs).2.dones.length = v.n ∧ (v.step acts xs).2.infos.length = v.n ∧
    (v.step acts xs).2.resetInfos.length = v.n ∧ (v.step acts xs).2.calls.length = v.n :=
  (step_wf v hwf acts xs hv).2.2

/-- `seed(s)` returns `s + i` for sub-environment `i` and makes it `i`'s pending seed, whatever seed was pending before. -/
theorem seed_assigns (v : Vec ω ρ) (hwf : v.WF) (s : Int) (i : Nat) (hi : i < v.n) :
    (v.seed s).2.seeds[i]? = some (some (s + (i : Int))) ∧
    (v.seed s).1.abs i = { v.abs i with seed := some (s + (i : Int)) } := by
  obtain ⟨_, _, w3⟩ := applyT_refines v hwf (Op.seed s) rfl
  obtain ⟨_, p2⟩ := w3 i hi
  constructor
  · cases v <;> exact seedList_getElem? _ s i hi
  · exact p2

/-- `set_options(o)` makes `o` (dict: the same for all; list: entry `i`; None: nothing) `i`'s pending options. -/
theorem set_options_assigns (v : Vec ω ρ) (hwf : v.WF) (o : OptArg) (hv : (Op.setOptions o : Op ω ρ).valid v.n = true)
    (i : Nat) (hi : i < v.n) :
    (v.setOptions o).1.abs i = { v.abs i with opts := (setOptionsList v.n o).getD i [] } := by
  obtain ⟨_, _, w3⟩ := applyT_refines v hwf (Op.setOptions o) hv
  obtain ⟨_, p2⟩ := w3 i hi
  rw [setOptionsList_proj (ρ := ρ) v.n o hv i hi] at p2
  exact p2

/-- **`reset()` delivers**: sub-environment `i` receives exactly one call, `reset(seed=pending seed of i,
options=pending options of i if non-empty)`; the returned observation and `reset_infos[i]` are what `i` answered;
afterwards `i` has no pending seed and no pending options. -/
theorem reset_delivers (v : Vec ω ρ) (hwf : v.WF) (zs : List (ResetRes ω)) (hz : zs.length = v.n) (i : Nat)
    (hi : i < v.n) (z : ResetRes ω) (hzi : zs[i]? = some z) :
    (v.reset zs).2.obs[i]? = some (some z.obs) ∧
    (v.reset zs).2.resetInfos[i]? = some z.info ∧
    (v.reset zs).2.calls[i]? = some [Call.reset (v.abs i).seed (maybeOptions (v.abs i).opts)] ∧
    (v.reset zs).1.abs i = { idx := i, resetInfo := z.info, seed := none, opts := [] } :=
  reset_at v hwf zs hz i z hzi

/-- every array `reset()` returns has exactly one entry per sub-environment -/
theorem reset_shapes (v : Vec ω ρ) (hwf : v.WF) (zs : List (ResetRes ω)) (hz : zs.length = v.n) :
    (v.reset zs).2.obs.length = v.n ∧ (v.reset zs).2.resetInfos.length = v.n ∧ (v.reset zs).2.calls.length = v.n :=
  (reset_wf v hwf zs hz).2.2

/-- The driver's entry point `Vec.apply` answers exactly inside the domain `Op.valid`, and there it is the total
functions the theorems above are about (so the correspondence run exercises the very definitions of the theorems). -/
theorem apply_in_domain (v : Vec ω ρ) (op : Op ω ρ) :
    (op.valid v.n = true → v.apply op = .ok (v.applyT op)) ∧
    (op.valid v.n = false → v.apply op = .error "operation outside the model's domain") ∧
    (∀ acts xs, v.applyT (Op.step acts xs) = v.step acts xs) ∧ (∀ zs, v.applyT (Op.reset zs : Op ω ρ) = v.reset zs) ∧
    (∀ s, v.applyT (Op.seed s : Op ω ρ) = v.seed s) ∧ (∀ o, v.applyT (Op.setOptions o : Op ω ρ) = v.setOptions o) := by
  refine ⟨fun h => by simp [Vec.apply, h], fun h => by simp [Vec.apply, h], fun _ _ => rfl, fun _ => rfl, fun _ => rfl,
    fun _ => rfl⟩

/-! ### Structured observations (Dict / Tuple / plain): the batched observation is a faithful transposition -/

/-- **DummyVecEnv layout**: whatever the per-key staging arrays `buf_obs[key]` contained before (stale rows of earlier
steps), after the loop has saved the `n` sub-environments' observations, the row of sub-environment `i` in the
returned batched observation is `i`'s own observation, component by component, for every key set (single key
`None`, Dict names, Tuple positions). -/
theorem obs_buffer_rows {κ α : Type} (keys : List κ) (n : Nat) (b : ObsBuf κ α) (hb : b.Shape keys n)
    (l : List (κ → α)) (hl : l.length = n) (i : Nat) (hi : i < n) :
    (b.saveAll 0 l).row i = ownObs keys (l[i]'(hl ▸ hi)) := by
  obtain ⟨_, _, h3⟩ := saveAll_rows l b keys n 0 hb (Nat.le_of_eq ((Nat.zero_add _).trans hl))
  have := h3 i _ (List.getElem?_eq_getElem (hl ▸ hi))
  rwa [Nat.zero_add] at this

/-- one `_save_obs(i, obs)` writes row `i` and no other row: the keyed arrays implement the slot array `bufObs` of the
mechanism model (`bufObs.set i (some obs)`). -/
theorem obs_save_is_slot_write {κ α : Type} (keys : List κ) (n : Nat) (b : ObsBuf κ α) (hb : b.Shape keys n)
    (i : Nat) (hi : i < n) (obs : κ → α) :
    (b.save i obs).row i = ownObs keys obs ∧ (∀ j, j ≠ i → (b.save i obs).row j = b.row j) ∧
    (b.save i obs).Shape keys n :=
  ⟨save_row_self b keys n hb i hi obs, fun j hj => save_row_other b i j hj obs, save_shape b keys n hb i obs⟩

/-- **SubprocVecEnv layout**: row `i` of `_stack_obs(obs_list, space)` is `obs_list[i]`, component by component. -/
theorem obs_stack_rows {κ α : Type} (keys : List κ) (l : List (κ → α)) (i : Nat) (hi : i < l.length) :
    stackRow (stackObs keys l) i = ownObs keys l[i] := by
  simp only [stackRow, stackObs, ownObs, List.map_map]
  apply List.map_congr_left
  intro k _
  simp [List.getElem?_eq_getElem hi]

/-- a fresh `buf_obs` has the shape `obs_buffer_rows` and `obs_save_is_slot_write` ask for -/
theorem obs_buffer_init_shape {κ α : Type} (keys : List κ) (n : Nat) : (ObsBuf.init keys n : ObsBuf κ α).Shape keys n := by
  constructor
  · simp [ObsBuf.init, Function.comp_def]
  · intro kc h
    simp only [ObsBuf.init, List.mem_map] at h
    obtain ⟨k, _, rfl⟩ := h
    simp

/-- **Well-formedness is an invariant** of every history inside the domain, starting from a fresh vectorised
environment of either kind; the number of sub-environments never changes. -/
theorem wf_invariant (k : Kind) (n : Nat) (ops : List (Op ω ρ)) (hval : ∀ op ∈ ops, op.valid n = true) :
    ((Vec.init k n : Vec ω ρ).run ops).WF ∧ ((Vec.init k n : Vec ω ρ).run ops).n = n := by
  obtain ⟨r1, r2, _⟩ := run_refines ops (Vec.init k n : Vec ω ρ) (init_wf k n)
    (fun op h => by rw [init_n]; exact hval op h)
  exact ⟨r1, r2.trans (init_n k n)⟩

/-- **A vectorised environment is `n` independent single-environment wrappers.** For every history inside the
domain, for either implementation, the outputs concerning sub-environment `i` (observation, reward, done, info,
reset info, calls received, seed returned) are exactly the outputs of the specification `EnvSpec` run on `i`'s own
part of the history — nothing of any other sub-environment enters. -/
theorem history_is_product (k : Kind) (n : Nat) (ops : List (Op ω ρ)) (hval : ∀ op ∈ ops, op.valid n = true)
    (i : Nat) (hi : i < n) :
    ((Vec.init k n : Vec ω ρ).outs ops).map (Out.proj i) = (EnvSpec.init i).outs (ops.map (Op.proj i)) ∧
    ((Vec.init k n : Vec ω ρ).run ops).abs i = (EnvSpec.init i).run (ops.map (Op.proj i)) := by
  obtain ⟨_, _, r3⟩ := run_refines ops (Vec.init k n : Vec ω ρ) (init_wf k n)
    (fun op h => by rw [init_n]; exact hval op h)
  have := r3 i (by rw [init_n]; exact hi)
  rw [init_abs k n i hi] at this
  exact this

/-- Corollary: **DummyVecEnv and SubprocVecEnv are observably the same** on every history (sequential schedule;
arbitrary timing is C02). -/
theorem dummy_subproc_agree (n : Nat) (ops : List (Op ω ρ)) (hval : ∀ op ∈ ops, op.valid n = true)
    (i : Nat) (hi : i < n) :
    ((Vec.init .dummy n : Vec ω ρ).outs ops).map (Out.proj i) =
      ((Vec.init .subproc n : Vec ω ρ).outs ops).map (Out.proj i) := by
  rw [(history_is_product .dummy n ops hval i hi).1, (history_is_product .subproc n ops hval i hi).1]

/-- **A seed reaches exactly the matching sub-environment at the next `reset()`**: after `seed(s)` and any further
operations that are neither `seed` nor `reset` (steps with any number of automatic resets, `set_options`), the call
sub-environment `i` receives in the next `reset()` carries `seed = s + i` — the value `seed()` returned at index `i`. -/
theorem seed_reaches_next_reset (v : Vec ω ρ) (hwf : v.WF) (s : Int) (mid : List (Op ω ρ))
    (hmid : ∀ op ∈ mid, op.valid v.n = true ∧ op.isSeed = false ∧ op.isReset = false)
    (zs : List (ResetRes ω)) (hz : zs.length = v.n) (i : Nat) (hi : i < v.n) :
    ∃ o, (((v.seed s).1.run mid).reset zs).2.calls[i]? = some [Call.reset (some (s + (i : Int))) o] := by
  -- `(v.seed s).1.run mid` is `v.run (Op.seed s :: mid)` by unfolding
  have h := reset_after_run v hwf (Op.seed s :: mid) (List.forall_mem_cons.mpr ⟨rfl, fun op h => (hmid op h).1⟩) zs hz i hi
  rw [List.map_cons, specRun_cons, specRun_keeps_seed mid i _ fun op h => (hmid op h).2] at h
  exact ⟨_, h⟩

/-- **… exactly once**: after a `reset()`, as long as `seed()` is not called again, every later `reset()` passes
`seed=None` to sub-environment `i` (whatever steps, automatic resets, option changes and resets lie in between). -/
theorem seed_used_once (v : Vec ω ρ) (hwf : v.WF) (zs : List (ResetRes ω)) (hz : zs.length = v.n)
    (mid : List (Op ω ρ)) (hmid : ∀ op ∈ mid, op.valid v.n = true ∧ op.isSeed = false)
    (zs' : List (ResetRes ω)) (hz' : zs'.length = v.n) (i : Nat) (hi : i < v.n) :
    ∃ o, (((v.reset zs).1.run mid).reset zs').2.calls[i]? = some [Call.reset none o] := by
  obtain ⟨z, hzi⟩ : ∃ z, zs[i]? = some z := ⟨_, List.getElem?_eq_getElem (hz.symm ▸ hi)⟩
  have h := reset_after_run v hwf (Op.reset zs :: mid)
    (List.forall_mem_cons.mpr ⟨beq_iff_eq.mpr hz, fun op h => (hmid op h).1⟩) zs' hz' i hi
  rw [List.map_cons, specRun_cons, specRun_seed_none mid i _ (by simp only [Op.proj, hzi]; rfl) fun op h => (hmid op h).2] at h
  exact ⟨_, h⟩

/-- **Options reach exactly the matching sub-environment at the next `reset()`**: after `set_options(o)` and any
operations that are neither `set_options` nor `reset`, sub-environment `i` receives its own entry of `o`
(not passed at all when empty). -/
theorem options_reach_next_reset (v : Vec ω ρ) (hwf : v.WF) (o : OptArg)
    (ho : (Op.setOptions o : Op ω ρ).valid v.n = true) (mid : List (Op ω ρ))
    (hmid : ∀ op ∈ mid, op.valid v.n = true ∧ op.isSetOptions = false ∧ op.isReset = false)
    (zs : List (ResetRes ω)) (hz : zs.length = v.n) (i : Nat) (hi : i < v.n) :
    ∃ sd, (((v.setOptions o).1.run mid).reset zs).2.calls[i]? =
      some [Call.reset sd (maybeOptions ((setOptionsList v.n o).getD i []))] := by
  have h := reset_after_run v hwf (Op.setOptions o :: mid) (List.forall_mem_cons.mpr ⟨ho, fun op h => (hmid op h).1⟩)
    zs hz i hi
  rw [List.map_cons, specRun_cons, specRun_keeps_opts mid i _ fun op h => (hmid op h).2,
    setOptionsList_proj (ρ := ρ) v.n o ho i hi] at h
  exact ⟨_, h⟩

/-- **… exactly once**: after a `reset()`, as long as `set_options()` is not called again, every later `reset()`
passes no options to sub-environment `i`. -/
theorem options_used_once (v : Vec ω ρ) (hwf : v.WF) (zs : List (ResetRes ω)) (hz : zs.length = v.n)
    (mid : List (Op ω ρ)) (hmid : ∀ op ∈ mid, op.valid v.n = true ∧ op.isSetOptions = false)
    (zs' : List (ResetRes ω)) (hz' : zs'.length = v.n) (i : Nat) (hi : i < v.n) :
    ∃ sd, (((v.reset zs).1.run mid).reset zs').2.calls[i]? = some [Call.reset sd none] := by
  obtain ⟨z, hzi⟩ : ∃ z, zs[i]? = some z := ⟨_, List.getElem?_eq_getElem (hz.symm ▸ hi)⟩
  have h := reset_after_run v hwf (Op.reset zs :: mid)
    (List.forall_mem_cons.mpr ⟨beq_iff_eq.mpr hz, fun op h => (hmid op h).1⟩) zs' hz' i hi
  rw [List.map_cons, specRun_cons, specRun_opts_empty mid i _ (by simp only [Op.proj, hzi]; rfl) fun op h => (hmid op h).2] at h
  exact ⟨_, h⟩

/-! ### Non-vacuity: concrete histories inside the domain (observations = tags, rewards = integers) -/

/-- three sub-environments; sub-environment 0 ends an episode with `terminated ∧ truncated`, 1 continues,
2 ends by truncation only -/
def exStep : Op Nat Int :=
  .step [3, 1, 2]
    [ { raw := { obs := 11, rew := 5, terminated := true, truncated := true, info := [("k", .int 1)] },
        rst := some { obs := 20, info := [("reset_tag", .int 20)] } },
      { raw := { obs := 111, rew := -1, terminated := false, truncated := false,
                 info := [("TimeLimit.truncated", .bool true)] }, rst := none },
      { raw := { obs := 211, rew := 0, terminated := false, truncated := true, info := [] },
        rst := some { obs := 220, info := [] } } ]

def exReset (b : Nat) : Op Nat Int :=
  .reset [{ obs := b, info := [("e", .int 0)] }, { obs := b + 100, info := [("e", .int 1)] },
          { obs := b + 200, info := [("e", .int 2)] }]

/-- seed, per-environment options, reset, a step, a step of length-1 episodes, a second reset -/
def exHistory : List (Op Nat Int) :=
  [.seed 7, .setOptions (.list [[("a", 1)], [], [("b", 2)]]), exReset 10, exStep, exStep, exReset 30]

example : ∀ op ∈ exHistory, op.valid 3 = true := by decide

example : ((Vec.init .dummy 3 : Vec Nat Int).run exHistory).WF := (wf_invariant .dummy 3 exHistory (by decide)).1

/-- the first reset delivers seeds 7, 8, 9 and the per-environment options (none for the empty dict) … -/
example : (((Vec.init .subproc 3 : Vec Nat Int).outs exHistory)[2]?).map (·.calls) =
    some [[Call.reset (some 7) (some [("a", 1)])], [Call.reset (some 8) none], [Call.reset (some 9) (some [("b", 2)])]] := rfl

/-- … the second reset delivers nothing -/
example : (((Vec.init .dummy 3 : Vec Nat Int).outs exHistory)[5]?).map (·.calls) =
    some [[Call.reset none none], [Call.reset none none], [Call.reset none none]] := rfl

/-- the step: observations 20 (after auto-reset), 111 (own), 220 (after auto-reset) -/
example : (((Vec.init .dummy 3 : Vec Nat Int).outs exHistory)[3]?).map (·.obs) = some [some 20, some 111, some 220] := rfl

example : (((Vec.init .dummy 3 : Vec Nat Int).outs exHistory)[3]?).map (·.dones) = some [true, false, true] := rfl

/-- the flag `"TimeLimit.truncated"` is `false` for `terminated ∧ truncated`, overwrites the sub-environment's own wrong
value, and is `true` for truncation only -/
example : (((Vec.init .dummy 3 : Vec Nat Int).outs exHistory)[3]?).map (·.infos) =
    some [[("k", .int 1), ("TimeLimit.truncated", .bool false), ("terminal_observation", .obs 11)],
       [("TimeLimit.truncated", .bool false)],
       [("TimeLimit.truncated", .bool true), ("terminal_observation", .obs 211)]] := rfl

example : (((Vec.init .dummy 3 : Vec Nat Int).outs exHistory)[3]?).map (·.resetInfos) =
    some [[("reset_tag", .int 20)], [("e", .int 1)], []] := rfl

example : (Vec.init .dummy 3 : Vec Nat Int).outs exHistory = (Vec.init .subproc 3 : Vec Nat Int).outs exHistory := rfl

/-- a Dict space with three keys, two sub-environments, stale rows from an earlier step -/
example : ((((ObsBuf.init ["vec", "img", "disc"] 2 : ObsBuf String Nat).saveAll 0 [fun _ => 7, fun _ => 8]).saveAll 0
    [fun k => if k = "img" then 10 else 11, fun _ => 20]).row 0) = [("vec", some 11), ("img", some 10), ("disc", some 11)] := rfl

end SB3Verif.C01
