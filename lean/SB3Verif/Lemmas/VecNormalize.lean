/-
`VecNormalize` (model: `SB3Verif/Model/VecNormalize.lean`).

`reset` and `step_wait` are each described once, by an equation for the resulting state (`reset_fst`,
`stepWait_fst`, `stepWait_snd`); the statements about histories are inductions that rewrite with these.
-/
import SB3Verif.Model.VecNormalize
import SB3Verif.Lemmas.RunningMeanStd
import Mathlib.Algebra.Order.Group.Abs

-- From `clip_eq_min_max` on the lemmas are stated over an ordered field with a square root; many use neither the
-- order nor the root.
set_option linter.unusedSectionVars false

namespace SB3Verif.Lemmas.VecNorm

open SB3Verif.RMS SB3Verif.VecNorm

variable {α : Type}

/-- `mapKeys` and `updateObsRms` both map over an association list, keep every key and compute the new value
from the key and the old value. -/
theorem lookup_map_snd {β γ : Type} (g : String → β → γ) (l : List (String × β)) (k : String) :
    (l.map fun p => (p.1, g p.1 p.2)).lookup k = (l.lookup k).map (g k) := by
  induction l with
  | nil => rfl
  | cons p l ih =>
    rw [List.map_cons, List.lookup_cons, List.lookup_cons, ih]
    cases h : k == p.1
    · rfl
    · rw [eq_of_beq h]; rfl

theorem mapKeys_eq (rms : ObsRms α) (f : List (Mom α) → Arr α → Arr α) (b : Batch α) :
    mapKeys rms f b = b.map fun ka => (ka.1, (rms.lookup ka.1).elim ka.2 fun ms => f ms ka.2) :=
  List.map_congr_left fun ka _ => by cases rms.lookup ka.1 <;> rfl

theorem mapKeys_keys (rms : ObsRms α) (f : List (Mom α) → Arr α → Arr α) (b : Batch α) :
    (mapKeys rms f b).map Prod.fst = b.map Prod.fst := by
  rw [mapKeys_eq, List.map_map]; rfl

theorem mapKeys_lookup (rms : ObsRms α) (f : List (Mom α) → Arr α → Arr α) (b : Batch α) (k : String) :
    (mapKeys rms f b).lookup k = (b.lookup k).map fun a => (rms.lookup k).elim a fun ms => f ms a := by
  rw [mapKeys_eq]; exact lookup_map_snd (fun k a => (rms.lookup k).elim a fun ms => f ms a) b k

theorem mapKeys_lookup_untouched (rms : ObsRms α) (f : List (Mom α) → Arr α → Arr α) (b : Batch α) (k : String)
    (h : rms.lookup k = none) : (mapKeys rms f b).lookup k = b.lookup k := by
  rw [mapKeys_lookup, h]; exact Option.map_id' ..

theorem mapKeys_mapKeys (rms : ObsRms α) (f g : List (Mom α) → Arr α → Arr α) (b : Batch α) :
    mapKeys rms g (mapKeys rms f b) = mapKeys rms (fun ms a => g ms (f ms a)) b := by
  simp only [mapKeys_eq, List.map_map]
  exact List.map_congr_left fun ka _ => by dsimp only [Function.comp]; cases rms.lookup ka.1 <;> rfl

theorem mapKeys_id_of (rms : ObsRms α) (f : List (Mom α) → Arr α → Arr α) (b : Batch α)
    (h : ∀ ka ∈ b, ∀ ms, rms.lookup ka.1 = some ms → f ms ka.2 = ka.2) : mapKeys rms f b = b := by
  rw [mapKeys_eq]
  refine (List.map_congr_left fun ka hka => ?_).trans (List.map_id b)
  cases hl : rms.lookup ka.1 with
  | none => rfl
  | some ms => exact congrArg (Prod.mk ka.1) (h ka hka ms hl)

variable [Field α] [LinearOrder α] [IsStrictOrderedRing α] [HasSqrt α]

/-- `np.clip` as the lattice expression; every fact about `clip` below is read off this. -/
theorem clip_eq_min_max (x lo hi : α) : clip x lo hi = min hi (max x lo) := by
  rw [min_def_lt, max_def_lt]; rfl

theorem clip_mem (x lo hi : α) (h : lo ≤ hi) : lo ≤ clip x lo hi ∧ clip x lo hi ≤ hi := by
  rw [clip_eq_min_max]
  exact ⟨le_min h (le_max_right x lo), min_le_left hi _⟩

theorem clip_eq_self (x lo hi : α) (h1 : lo ≤ x) (h2 : x ≤ hi) : clip x lo hi = x := by
  rw [clip_eq_min_max, max_eq_left h1, min_eq_right h2]

theorem clip_eq_hi (x lo hi : α) (h : hi ≤ x) : clip x lo hi = hi := by
  rw [clip_eq_min_max]; exact min_eq_left (h.trans (le_max_left x lo))

theorem clip_eq_lo (x lo hi : α) (hc : lo ≤ hi) (h : x ≤ lo) : clip x lo hi = lo := by
  rw [clip_eq_min_max, max_eq_right h, min_eq_right hc]

theorem unnormWith_normWith (mean s c x : α) (hs : s ≠ 0) (h : |(x - mean) / s| ≤ c) :
    unnormWith mean s (normWith mean s c x) = x := by
  unfold unnormWith normWith
  obtain ⟨h1, h2⟩ := abs_le.mp h
  rw [clip_eq_self _ _ _ h1 h2, div_mul_cancel₀ _ hs, sub_add_cancel]

theorem unnormCol_normCol (m : Mom α) (eps c : α) (col : List α) (hs : sd m eps ≠ 0)
    (h : ∀ x ∈ col, |(x - m.mean) / sd m eps| ≤ c) : unnormCol m eps (normCol m eps c col) = col :=
  (List.map_map ..).trans <|
    (List.map_congr_left fun x hx => unnormWith_normWith _ _ c x hs (h x hx)).trans (List.map_id col)

theorem unnormArr_normArr (ms : List (Mom α)) (eps c : α) (a : Arr α)
    (h : List.Forall₂ (fun m col => sd m eps ≠ 0 ∧ ∀ x ∈ col, |(x - m.mean) / sd m eps| ≤ c) ms a) :
    unnormArr ms eps (normArr ms eps c a) = a := by
  induction h with
  | nil => rfl
  | cons hd _ ih => exact congrArg₂ List.cons (unnormCol_normCol _ _ _ _ hd.1 hd.2) ih

/-- what `updateObsRms` does to the statistics `ms` of key `k` -/
def keyStep (k : String) (ms : List (Mom α)) (b : Batch α) : List (Mom α) :=
  match b.lookup k with
  | some a => List.zipWith update ms a
  | none => ms

theorem updateObsRms_eq (rms : ObsRms α) (b : Batch α) :
    updateObsRms rms b = rms.map fun kms => (kms.1, keyStep kms.1 kms.2 b) :=
  List.map_congr_left fun kms _ => by unfold keyStep; cases b.lookup kms.1 <;> rfl

theorem updateObsRms_keys (rms : ObsRms α) (b : Batch α) :
    (updateObsRms rms b).map Prod.fst = rms.map Prod.fst := by
  rw [updateObsRms_eq, List.map_map]; rfl

theorem foldl_updateObsRms_lookup (rms : ObsRms α) (bs : List (Batch α)) (k : String) :
    (bs.foldl updateObsRms rms).lookup k = (rms.lookup k).map fun ms => bs.foldl (keyStep k) ms := by
  induction bs generalizing rms with
  | nil => exact Option.map_id'.symm
  | cons b bs ih =>
    rw [List.foldl_cons, ih, updateObsRms_eq, lookup_map_snd (fun k ms => keyStep k ms b), Option.map_map]
    rfl

theorem keyStep_getElem? (k : String) (ms : List (Mom α)) (b : Batch α) (a : Arr α) (ha : b.lookup k = some a)
    (hlen : a.length = ms.length) (j : ℕ) :
    (keyStep k ms b)[j]? = ms[j]?.map fun m => update m (column k j b) := by
  unfold keyStep column
  rw [ha, List.getElem?_zipWith, Option.getD_some, List.getD_eq_getElem?_getD]
  rcases lt_or_ge j ms.length with hj | hj
  · rw [List.getElem?_eq_getElem hj, List.getElem?_eq_getElem (hj.trans_eq hlen.symm)]; rfl
  · rw [List.getElem?_eq_none hj]; rfl

theorem foldl_keyStep_getElem? (k : String) (ms : List (Mom α)) (bs : List (Batch α))
    (hshape : ∀ b ∈ bs, ∃ a, b.lookup k = some a ∧ a.length = ms.length) (j : ℕ) :
    (bs.foldl (keyStep k) ms)[j]? = ms[j]?.map fun m => updateAll m (bs.map (column k j)) := by
  induction bs generalizing ms with
  | nil => exact Option.map_id'.symm
  | cons b bs ih =>
    obtain ⟨a, ha, hlen⟩ := hshape b (List.mem_cons_self ..)
    rw [List.foldl_cons, ih, keyStep_getElem? k ms b a ha hlen, Option.map_map]
    · rfl
    · have hlen' : (keyStep k ms b).length = ms.length := by
        unfold keyStep; rw [ha, List.length_zipWith, hlen, min_self]
      rw [hlen']
      exact fun b' hb' => hshape b' (List.mem_cons_of_mem _ hb')

section Fields

variable (s : VN α) (o : Batch α) (r : List α) (d : List Bool) (t : List (Option (Batch α)))

theorem absorbObs_eq :
    s.absorbObs o = { s with obsRms := if s.training && s.normObs then updateObsRms s.obsRms o else s.obsRms } := by
  unfold VN.absorbObs; split <;> rfl

theorem absorbObs_obsRms :
    (s.absorbObs o).obsRms = if s.training && s.normObs then updateObsRms s.obsRms o else s.obsRms := by
  rw [absorbObs_eq]

theorem reset_fst : (s.reset o).1 =
    { s with oldObs := o, returns := List.replicate s.nEnvs 0,
             obsRms := if s.training && s.normObs then updateObsRms s.obsRms o else s.obsRms } := by
  rw [VN.reset, absorbObs_eq]

theorem stepWait_snd : (s.stepWait o r d t).2 =
    { obs := (s.stepWait o r d t).1.normalizeObs o, rew := (s.stepWait o r d t).1.normalizeReward r,
      terms := List.zipWith (fun dn tb => if dn then tb.map (s.stepWait o r d t).1.normalizeObs else tb) d t } := by
  obtain ⟨cfg, n, tr, no, nr, h, orms, rrms, rets, oo, orw⟩ := s
  cases tr <;> cases no <;> rfl

theorem stepWait_fst : (s.stepWait o r d t).1 =
    { s with
      oldObs := o, oldRew := r,
      obsRms := if s.training && s.normObs then updateObsRms s.obsRms o else s.obsRms,
      retRms := if s.training then update s.retRms (List.zipWith (fun R x => R * s.cfg.gamma + x) s.returns r)
        else s.retRms,
      returns := List.zipWith (fun dn R => if dn then 0 else R) d
        (if s.training then List.zipWith (fun R x => R * s.cfg.gamma + x) s.returns r else s.returns) } := by
  obtain ⟨cfg, n, tr, no, nr, h, orms, rrms, rets, oo, orw⟩ := s
  cases tr <;> cases no <;> rfl

theorem reset_obs_out (s : VN α) (o : Batch α) : (s.reset o).2 = (s.reset o).1.normalizeObs o := rfl

end Fields

theorem run_nil (s : VN α) : s.run [] = s := rfl
theorem run_cons (s : VN α) (e : Ev α) (evs : List (Ev α)) : s.run (e :: evs) = (s.apply e).run evs := rfl
theorem run_append (s : VN α) (as bs : List (Ev α)) : s.run (as ++ bs) = (s.run as).run bs :=
  List.foldl_append

theorem absorbedObs_eq_trainingObs (tr : Bool) (evs : List (Ev α)) (h : ∀ e ∈ evs, e ≠ Ev.setNormObs false) :
    absorbedObs tr true evs = trainingObs tr evs := by
  induction evs generalizing tr with
  | nil => rfl
  | cons e evs ih =>
    have ih' := fun tr => ih tr (fun e he => h e (List.mem_cons_of_mem _ he))
    cases e with
    | setNormObs b =>
      cases b with
      | true => exact ih' tr
      | false => exact absurd rfl (h _ (List.mem_cons_self ..))
    | reset o | step o _ _ _ =>
      cases tr
      · exact ih' false
      · exact congrArg (o :: ·) (ih' true)
    | _ => exact ih' _

theorem discRet_snoc (γ : α) (l : List α) (x : α) : discRet γ (l ++ [x]) = discRet γ l * γ + x :=
  List.foldl_append

theorem zipWith_acc_step (γ : α) (acc : List (List α)) (rew : List α) :
    List.zipWith (fun R x => R * γ + x) (acc.map (discRet γ)) rew =
      (List.zipWith (fun l x => l ++ [x]) acc rew).map (discRet γ) := by
  rw [List.zipWith_map_left, List.map_zipWith]
  exact congrFun (congrFun (congrArg List.zipWith (funext₂ fun l x => (discRet_snoc γ l x).symm)) acc) rew

theorem zipWith_acc_mask (γ : α) (d : List Bool) (acc : List (List α)) :
    List.zipWith (fun dn R => if dn then 0 else R) d (acc.map (discRet γ)) =
      (List.zipWith (fun dn l => if dn then [] else l) d acc).map (discRet γ) := by
  rw [List.zipWith_map_right, List.map_zipWith]
  congr 1
  funext dn l
  cases dn <;> rfl

theorem replicate_zero (γ : α) (n : ℕ) : List.replicate n (0 : α) = (List.replicate n []).map (discRet γ) :=
  (List.map_replicate (f := discRet γ) (a := [])).symm

theorem run_ret (s : VN α) (acc : List (List α)) (evs : List (Ev α))
    (hacc : s.returns = acc.map (discRet s.cfg.gamma)) :
    (s.run evs).returns = (retTrace s.cfg.gamma s.nEnvs s.training acc evs).1.map (discRet s.cfg.gamma) ∧
    (s.run evs).retRms = updateAll s.retRms (retTrace s.cfg.gamma s.nEnvs s.training acc evs).2 := by
  induction evs generalizing s acc with
  | nil => exact ⟨hacc, rfl⟩
  | cons e evs ih =>
    rw [run_cons]
    -- the induction hypothesis at the next state `s.apply e`; its final state is hidden in `s'` so that
    -- rewriting with the equations of `reset` / `step_wait` only touches the fields the hypothesis reads
    have h := ih (s.apply e)
    generalize (s.apply e).run evs = s' at h ⊢
    cases e with
    | reset o =>
      simp only [VN.apply, reset_fst] at h
      exact h _ (replicate_zero ..)
    | step o r d t =>
      simp only [VN.apply, stepWait_fst, hacc] at h
      cases htr : s.training <;> simp only [htr, if_true, Bool.false_eq_true, if_false] at h
      · exact h _ (zipWith_acc_mask ..)
      · rw [zipWith_acc_step] at h
        exact h _ (zipWith_acc_mask ..)
    | saveLoad => exact h (List.replicate s.nEnvs []) (replicate_zero ..)
    -- the three toggles touch neither accumulators nor `ret_rms`; `retTrace` takes over the new `training` flag
    | _ => exact h acc hacc

theorem apply_frozen (s : VN α) (e : Ev α) (h : s.training = false) (he : e ≠ Ev.setTraining true) :
    (s.apply e).training = false ∧ (s.apply e).obsRms = s.obsRms ∧ (s.apply e).retRms = s.retRms := by
  cases e with
  | reset o => simp only [VN.apply, reset_fst, h, Bool.false_and, Bool.false_eq_true, if_false, and_self]
  | step o r d t => simp only [VN.apply, stepWait_fst, h, Bool.false_and, Bool.false_eq_true, if_false, and_self]
  | setTraining b =>
    cases b with
    | true => exact absurd rfl he
    | false => exact ⟨rfl, rfl, rfl⟩
  | _ => exact ⟨h, rfl, rfl⟩

theorem retTrace_eq_episodeRewards (γ : α) (n : ℕ) (acc : List (List α)) (evs : List (Ev α))
    (h : ∀ e ∈ evs, e ≠ Ev.setTraining false) :
    (retTrace γ n true acc evs).1 = episodeRewards n acc evs := by
  induction evs generalizing acc with
  | nil => rfl
  | cons e evs ih =>
    have ih' := fun acc => ih acc (fun e he => h e (List.mem_cons_of_mem _ he))
    cases e with
    | setTraining b =>
      cases b with
      | true => exact ih' _
      | false => exact absurd rfl (h _ (List.mem_cons_self ..))
    | _ => exact ih' _

theorem apply_hasObsRms (s : VN α) (e : Ev α) : (s.apply e).hasObsRms = s.hasObsRms := by
  cases e with
  | reset o => exact (congrArg VN.hasObsRms (reset_fst s o) :)
  | step o r d t => exact (congrArg VN.hasObsRms (stepWait_fst s o r d t) :)
  | _ => rfl

end SB3Verif.Lemmas.VecNorm
