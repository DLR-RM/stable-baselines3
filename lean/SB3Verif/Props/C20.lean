/-
C20 — Logger outputs are complete and re-readable.

Property theorems only (helper lemmas are in `SB3Verif/Lemmas/{Csv,Logger,LoggerText}.lean`). All statements are about the
executable models `SB3Verif/Model/{Logger,Csv}.lean`, whose definitions the driver `SB3Verif/Driver/C20.lean`
runs against the real `Logger`, `CSVOutputFormat`, `JSONOutputFormat`, `HumanOutputFormat`, `read_csv`, `read_json`.

Vocabulary: a *history* is a `List (Op α)` of `record / recordMean / dump`; `snapshots p ops` lists the pending set
at every `dump` of the history (that is what every output format receives) and the pending set left at the end.
-/
import SB3Verif.Lemmas.LoggerText

namespace SB3Verif.C20

open SB3Verif.Logger SB3Verif.Logger.Lemmas
open SB3Verif.Csv (Str Cell)

section pending
variable {α : Type} [Field α] [CharZero α]

/-- **record_mean reports the arithmetic mean.** In any dump-free stretch of a history in which `k` was not pending
at the start and is never `record`ed, whatever is done to other keys in between (and `record_mean(k, None)` calls):
once at least one value was given, the pending value of `k` is `(Σ values) / (number of values)` and its counter is
the number of values. (Any field of characteristic 0: ℚ, ℝ, …) -/
theorem record_mean_is_mean (k : Str) (seg : List (Op α)) (p p' : Pending α) (l : List (Pending α × List Str))
    (hseg : ∀ op ∈ seg, op.isDump = false ∧ op.isRecordOf k = false) (hfresh : find? k p = none)
    (hrun : snapshots p seg = some (l, p')) (hne : meanVals k seg ≠ []) :
    ∃ e, find? k p' = some e ∧ e.val = Val.flt ((meanVals k seg).sum / ((meanVals k seg).length : α))
      ∧ e.count = (meanVals k seg).length := by
  have h := meanState_snapshots (vs := []) hseg hfresh hrun
  rw [List.nil_append] at h
  exact (meanState_of_ne_nil hne).mp h

end pending

section pending'
variable {α : Type} [Add α] [Mul α] [Div α] [NatCast α] [IntCast α]

/-- **The last `record` wins**: after `… record k v ex …` followed by operations that neither dump nor touch `k`,
the pending value of `k` is `v` with exclusions `ex` — whatever happened before (dumps included). -/
theorem record_last_wins (k : Str) (v : Val α) (ex : List Str) (before after : List (Op α)) (p p' : Pending α)
    (l : List (Pending α × List Str))
    (hafter : ∀ op ∈ after, op.isDump = false ∧ op.touches k = false)
    (hrun : snapshots p (before ++ Op.record k v ex :: after) = some (l, p')) :
    ∃ e, find? k p' = some e ∧ e.val = v ∧ e.excl = ex := by
  rw [snapshots_append] at hrun
  obtain ⟨⟨l1, q⟩, _, h⟩ := Option.bind_eq_some_iff.mp hrun
  obtain ⟨⟨l2, q'⟩, h2, he⟩ := Option.map_eq_some_iff.mp h
  cases he
  exact ⟨_, (find?_snapshots_of_not_touches hafter h2).trans (find?_record_self k v ex q), rfl, rfl⟩

/-- **dump hands over the pending set and empties it**: the first snapshot of `dump :: rest` is exactly the pending
set, and what follows is computed from the empty set. -/
theorem dump_clears (p : Pending α) (order : List Str) (rest : List (Op α)) :
    snapshots p (Op.dump order :: rest)
      = (snapshots ([] : Pending α) rest).map (fun r => ((p, order) :: r.1, r.2)) :=
  snapshots_dump p order rest

/-- **Pending = recorded since the last dump**: after a dump-free stretch that started with an empty pending set
(the state right after a `dump`, or a new logger), a key is pending iff some `record` / `record_mean(·, not None)`
of the stretch named it. -/
theorem pending_keys_exact (k : Str) (seg : List (Op α)) (p' : Pending α) (l : List (Pending α × List Str))
    (hseg : ∀ op ∈ seg, op.isDump = false) (hrun : snapshots ([] : Pending α) seg = some (l, p')) :
    (find? k p').isSome ↔ ∃ op ∈ seg, op.touches k = true := by
  rw [isSome_find?, keysOf_snapshots k hseg hrun]
  exact or_iff_right List.not_mem_nil

/-- The pending set is a dictionary: keys stay distinct, in every snapshot of every history. -/
theorem pending_keys_distinct (ops : List (Op α)) (p' : Pending α) (l : List (Pending α × List Str))
    (hrun : snapshots ([] : Pending α) ops = some (l, p')) :
    (keysOf p').Nodup ∧ ∀ sn ∈ l, (keysOf sn.1).Nodup :=
  nodup_snapshots hrun List.nodup_nil

end pending'

/-- **`filter_excluded_keys`**: a key/value pair reaches format `fmt` iff it is pending (recorded since the last
dump) and `fmt` is not among the formats the key was excluded for. -/
theorem exclusion_filter {α : Type} (fmt k : Str) (v : Val α) (p : Pending α) :
    (k, v) ∈ visible fmt p ↔ ∃ e ∈ p, e.key = k ∧ e.val = v ∧ fmt ∉ e.excl := by
  simp only [visible, List.mem_map, List.mem_filter, Bool.not_eq_true', List.contains_eq_mem,
    decide_eq_false_iff_not, Prod.mk.injEq]
  constructor
  · rintro ⟨e, ⟨he, hx⟩, hk, hv⟩; exact ⟨e, he, hk, hv, hx⟩
  · rintro ⟨e, he, hk, hv, hx⟩; exact ⟨e, ⟨he, hx⟩, hk, hv⟩

/-- the human format applies ONE test to both of its outputs: a key is shown iff neither `"stdout"` nor `"log"`
is among its exclusions -/
theorem human_exclusion_partial {α : Type} (e : Entry α) (p : Pending α) :
    e ∈ humanVisible p ↔ e ∈ p ∧ STDOUT ∉ e.excl ∧ LOG ∉ e.excl := by
  simp [humanVisible, List.mem_filter]

/-- …so a key excluded **only** for `"stdout"` is also missing from the `log` output (the instance shown; `"log"`
alone behaves alike by the symmetry of the test): the per-format reading of the property ("appears in each configured output not excluded for it") is false of the code
for the two human outputs. Recorded as finding K-C20-c. -/
theorem human_exclusion_counterexample :
    let e : Entry Rat := { key := ['a'], val := .int 1, count := 0, excl := [STDOUT] }
    LOG ∉ e.excl ∧ e ∉ humanVisible [e] := by
  decide +kernel

/-- **One row round-trips, for all strings**: whatever characters the string cells contain (quotes, commas, line
breaks, `#`), the reader returns exactly the cells that were written — provided the number cells are clean tokens
(`cellOk`) and the row is not one the reader takes for a blank line (no cell, or a single empty cell). -/
theorem csv_row_roundtrip (cells : List Cell) (hok : ∀ c ∈ cells, Csv.cellOk c = true)
    (hvis : Csv.rowVisible cells = true) :
    Csv.parse (Csv.rowBytes cells) = some [cells] := by
  rw [Csv.parse, Csv.PS.init, Csv.Lemmas.run_row cells [] hok hvis]
  rfl

/-- **The whole file round-trips, for every history of dumps**: any key sets per dump (appearing, disappearing,
re-appearing), any order in which new keys are appended, string cells with any characters — line breaks before a
header rewrite included (F-C20-a, fixed) — the reader returns the column list and, row by row, the recorded cell of
every column and `missing` elsewhere. Hypotheses: there is at least one dump; in every dump the keys are distinct
clean tokens and the number cells clean tokens (`kvsOk`); `rowsVisible`: no dump wrote an entirely empty row into a
file with fewer than two columns (see `csv_blank_row_counterexample`). -/
theorem csv_table_roundtrip_partial (ws : List (List (Str × Cell) × List Str)) (f : Csv.File)
    (hrun : Csv.runWrites Csv.File.empty ws = some f) (hok : ∀ w ∈ ws, Csv.kvsOk w.1 = true)
    (hvis : Csv.rowsVisible Csv.File.empty ws = true) (hne : ws ≠ []) :
    Csv.readCsv f.data = some ⟨f.keys, ws.map (fun w => f.keys.map (fun k => Csv.lookup k w.1))⟩ := by
  have inv := Csv.Lemmas.Inv.empty.run hrun hok hvis
  rw [inv.readCsv (by simpa using hne), List.nil_append, Csv.Lemmas.tableRows, List.map_map]
  rfl

/-- Sufficient for `rowsVisible`: every dump has at least one value for the CSV format. -/
theorem csv_table_roundtrip_values (ws : List (List (Str × Cell) × List Str)) (f : Csv.File)
    (hrun : Csv.runWrites Csv.File.empty ws = some f)
    (hok : ∀ w ∈ ws, Csv.kvsOk w.1 = true ∧ ∃ kc ∈ w.1, kc.2 ≠ Cell.missing) (hne : ws ≠ []) :
    Csv.readCsv f.data = some ⟨f.keys, ws.map (fun w => f.keys.map (fun k => Csv.lookup k w.1))⟩ :=
  csv_table_roundtrip_partial ws f hrun (fun w hw => (hok w hw).1) (Csv.Lemmas.rowsVisible_of_values _ hok) hne

/-- **F-C20-a as a theorem** (it was a counterexample before the fix `ba5962a`): a string with ANY characters —
line breaks, quotes, commas — written in one dump survives the header rewrite forced by a new key in the next. -/
theorem header_rewrite_keeps_linebreaks (s t : Str) (ht : Csv.tokClean t = true) (f : Csv.File)
    (hrun : Csv.runWrites Csv.File.empty [([(['a'], .str s)], [['a']]), ([(['b'], .num t)], [['b']])] = some f) :
    Csv.readCsv f.data = some ⟨[['a'], ['b']], [[.str s, .missing], [.missing, .num t]]⟩ := by
  have hb : Csv.kvsOk [(['b'], Cell.num t)] = true := by
    show (_ && _ && (Csv.tokClean t && true)) = true
    rw [ht]; rfl
  rw [csv_table_roundtrip_values _ f hrun (List.forall_mem_cons.mpr ⟨⟨rfl, _, List.mem_cons_self, nofun⟩,
    List.forall_mem_cons.mpr ⟨⟨hb, _, List.mem_cons_self, nofun⟩, nofun⟩⟩) (List.cons_ne_nil _ _),
    Csv.Lemmas.runWrites_keys hrun]
  rfl

/-- **The full statement is false of the code** when a dump has no value for the CSV format while the file has at
most one column: the row is written as an empty line, which the reader skips — three dumps `{a:1}, {}, {a:3}` read
back as two rows. Recorded as finding K-C20-a. -/
theorem csv_blank_row_counterexample :
    let ws : List (List (Str × Cell) × List Str) :=
      [([(['a'], .num ['1'])], [['a']]), ([], []), ([(['a'], .num ['3'])], [])]
    ∃ f, Csv.runWrites Csv.File.empty ws = some f ∧ f.data = "a\n1\n\n3\n".toList ∧
      Csv.readCsv f.data = some ⟨[['a']], [[.num ['1']], [.num ['3']]]⟩ := by
  refine ⟨⟨[['a']], "a\n1\n\n3\n".toList, 7⟩, ?_, ?_, ?_⟩ <;> decide +kernel

section e2e
variable {α : Type} [Add α] [Mul α] [Div α] [NatCast α] [IntCast α]

/-- **For every history of record / record_mean / dump** run on a logger with a CSV output (and any other
outputs) with at least one dump: if keys are clean identifiers and numbers print as clean tokens, the file read back
has one row per dump, and in row `i`, column `k`, the value pending for `k` at dump `i` if it was not excluded for
`"csv"`, `missing` otherwise — provided no dump was entirely empty for CSV while the file had fewer than two columns. -/
theorem logger_csv_end_to_end (R : Render α) (hR : ∀ x, Csv.tokClean (R.csv x) = true) (cfg : Config)
    (hcsv : cfg.csv = true) (ops : List (Op α)) (s' : Sys α)
    (hrun : Sys.run R cfg Sys.init ops = .ok s')
    (hkeys : ∀ op ∈ ops, ∀ k, op.key? = some k → Csv.tokClean k = true) :
    ∃ snaps, snapshots ([] : Pending α) ops = some (snaps, s'.pending) ∧
      (snaps ≠ [] →
        Csv.rowsVisible Csv.File.empty (snaps.map (fun sn => (csvRow R sn.1, sn.2))) = true →
        Csv.readCsv s'.csv.data
          = some ⟨s'.csv.keys, snaps.map (fun sn => s'.csv.keys.map (fun k => csvCellOf R sn.1 k))⟩) := by
  obtain ⟨snaps, out⟩ := run_decompose hrun
  have hsn := out.pending
  refine ⟨snaps, hsn, ?_⟩
  intro hne hvis
  have hnd := (nodup_snapshots hsn List.nodup_nil).2
  have hcl := (keys_snapshots (fun k => Csv.tokClean k = true) hsn nofun hkeys).2
  have hok : ∀ w ∈ snaps.map (fun sn => (csvRow R sn.1, sn.2)), Csv.kvsOk w.1 = true := by
    intro w hw
    obtain ⟨sn, hsn', rfl⟩ := List.mem_map.mp hw
    exact kvsOk_csvRow R hR sn.1 (hnd sn hsn') (hcl sn hsn')
  rw [csv_table_roundtrip_partial _ s'.csv (out.csv hcsv) hok hvis (by simpa using hne), List.map_map]
  exact congrArg (fun r => some (Csv.Table.mk s'.csv.keys r)) (List.map_congr_left fun sn hsn' =>
    List.map_congr_left fun k _ => lookup_csvRow R sn.1 (hnd sn hsn') k)

end e2e

/-- **The JSON file round-trips**: whatever the strings contain (quotes, backslashes, line breaks, …) and whatever
the key sets, reading the lines back gives, row by row and in order, the keys and values that were written — provided
every number token is non-empty and free of delimiter characters (`jvalOk`). -/
theorem json_rows_roundtrip (rows : List (List (Str × JVal))) (hok : ∀ r ∈ rows, ∀ kv ∈ r, jvalOk kv.2 = true) :
    readJson (rows.map jsonLine).flatten = some rows := by
  rw [readJson, splitNlAux_lines rows hok]
  induction rows with
  | nil => rfl
  | cons r rs ih =>
    rw [List.map_cons, List.mapM_cons, parseJsonLine_jsonLine r (hok r List.mem_cons_self),
      ih (List.forall_mem_cons.mp hok).2]
    rfl

section e2ejson
variable {α : Type} [Add α] [Mul α] [Div α] [NatCast α] [IntCast α]

/-- **For every history** run on a logger with a JSON output: the file read back has one row per dump, holding
exactly the pending keys not excluded for `"json"`, in recording order, with their values (`jsonRow`; numbers must
print as tokens the reader can delimit, `hR`). -/
theorem logger_json_end_to_end (R : Render α) (hR : ∀ x, jtokClean (R.json x) = true) (cfg : Config)
    (hjson : cfg.json = true) (ops : List (Op α)) (s' : Sys α)
    (hrun : Sys.run R cfg Sys.init ops = .ok s') :
    ∃ snaps, snapshots ([] : Pending α) ops = some (snaps, s'.pending) ∧
      readJson s'.json = some (snaps.map (fun sn => jsonRow R sn.1)) := by
  obtain ⟨snaps, out⟩ := run_decompose hrun
  refine ⟨snaps, out.pending, ?_⟩
  have hok : ∀ r ∈ snaps.map (fun sn => jsonRow R sn.1), ∀ kv ∈ r, jvalOk kv.2 = true := by
    intro r hr
    obtain ⟨sn, _, rfl⟩ := List.mem_map.mp hr
    exact jvalOk_jsonRow R hR sn.1
  -- the file started empty, so it is the lines of the snapshots
  have hrt := json_rows_roundtrip _ hok
  rw [List.map_map] at hrt
  rw [out.json hjson]
  exact hrt

end e2ejson

/-- a pair is in the JSON row iff the key is pending and not excluded for `"json"` -/
theorem json_row_complete {α : Type} (R : Render α) (p : Pending α) (k : Str) (j : JVal) :
    (k, j) ∈ jsonRow R p ↔ ∃ e ∈ p, e.key = k ∧ e.val.jval R = j ∧ JSON ∉ e.excl := by
  simp only [jsonRow, List.mem_map, Prod.mk.injEq]
  constructor
  · rintro ⟨⟨k', v⟩, hkv, hk, hj⟩
    obtain ⟨e, he, hek, hev, hex⟩ := (exclusion_filter JSON k' v p).mp hkv
    exact ⟨e, he, by rw [hek]; exact hk, by rw [hev]; exact hj, hex⟩
  · rintro ⟨e, he, hk, hj, hex⟩
    exact ⟨(e.key, e.val), (exclusion_filter JSON e.key e.val p).mpr ⟨e, he, rfl, rfl, hex⟩, hk, hj⟩

/-- **Every recorded, not excluded key appears in the table with its value**: for keys that are non-empty and do
not start with `/`, if the write succeeds (no `ValueError` for two keys truncated alike), the text contains the line
`| <key> … | <value> … |` where the key is shown as `name` indented under its `tag/` line or as is, and key and value
are truncated to `max_length`. -/
theorem human_table_contains {α : Type} (R : Render α) (maxLen : Nat) (p : Pending α) (text : Str)
    (hk : ∀ e ∈ p, keyShapeOk e.key) (hw : humanWrite R maxLen p = some text)
    (e : Entry α) (he : e ∈ p) (h1 : STDOUT ∉ e.excl) (h2 : LOG ∉ e.excl) :
    ∃ kw vw, humanLine kw vw (truncate maxLen (shownKey e.key)) (truncate maxLen (e.val.humanStr R)) <:+: text := by
  rw [humanWrite] at hw
  cases hl : humanLoop R maxLen [] [] (humanVisible (sortByKey p)) with
  | none => rw [hl] at hw; cases hw
  | some mf =>
    rw [hl] at hw; cases hw
    -- the loop runs over the sorted, not excluded entries, `e` among them
    have hev : e ∈ humanVisible (sortByKey p) :=
      (human_exclusion_partial e _).mpr ⟨(mem_sortByKey e p).mpr he, h1, h2⟩
    have hks : ∀ e' ∈ humanVisible (sortByKey p), keyShapeOk e'.key := fun e' he' =>
      hk e' ((mem_sortByKey e' p).mp ((human_exclusion_partial e' _).mp he').1)
    obtain ⟨tg, hmem⟩ := (humanLoop_spec (HInv.init maxLen) hks hl).2 e hev
    exact humanTable_contains hmem

section e2ehuman
variable {α : Type} [Add α] [Mul α] [Div α] [NatCast α] [IntCast α]

/-- …and for every history run on a logger with a human output, that output is exactly the texts of the dumps one
after the other (nothing is rewritten, nothing else is written). -/
theorem logger_human_end_to_end (R : Render α) (cfg : Config) (hh : cfg.human = true) (ops : List (Op α)) (s' : Sys α)
    (hrun : Sys.run R cfg Sys.init ops = .ok s') :
    ∃ snaps, snapshots ([] : Pending α) ops = some (snaps, s'.pending) ∧
      ∃ ts, List.Forall₂ (fun sn t => humanWrite R cfg.maxLen sn.1 = some t) snaps ts ∧ s'.human = ts.flatten := by
  obtain ⟨snaps, out⟩ := run_decompose hrun
  obtain ⟨ts, hts, hst⟩ := out.human hh
  exact ⟨snaps, out.pending, ts, hts, by simpa [Sys.init] using hst⟩

end e2ehuman

/-- the `Rat` instance the driver runs (`str(float)` as exact decimal expansion) prints clean tokens, so the
end-to-end theorems apply to it without further assumptions -/
theorem ratRender_clean (q : Rat) :
    Csv.tokClean (ratRender.csv q) = true ∧ jtokClean (ratRender.json q) = true :=
  ⟨pyFloatRepr_clean q, pyFloatRepr_jtokClean q⟩

/-! ### Non-vacuity: the hypotheses are met by non-trivial data -/

/-- a history with a string holding a line break and a quote, a late key (header rewrite), an exclusion and a mean -/
def exOps : List (Op Rat) :=
  [.record ['a'] (.str ['x', '\n', '"', 'y']) [[]], .recordMean ['m'] (some 3) [[]], .recordMean ['m'] (some 6) [[]],
   .dump [['a'], ['m']],
   .record ['b'] (.int 3) [CSV], .record ['c'] (.int 7) [[]], .dump [['c']]]

def exRender : Render Rat := ⟨fun _ => ['1'], fun _ => ['1'], fun _ => ['1']⟩

example : ∃ s', Sys.run exRender ⟨true, true, true, 36⟩ Sys.init exOps = .ok s' ∧
    s'.csv.data = "a,m,c\n\"x\n\"\"y\",1,\n,,7\n".toList ∧
    Csv.rowsVisible Csv.File.empty [(csvRow exRender [⟨['a'], .str ['x', '\n', '"', 'y'], 0, [[]]⟩, ⟨['m'], .flt (9/2), 2, [[]]⟩], [['a'], ['m']]),
      (csvRow exRender [⟨['b'], .int 3, 0, [CSV]⟩, ⟨['c'], .int 7, 0, [[]]⟩], [['c']])] = true := by
  refine ⟨_, rfl, ?_, ?_⟩ <;> decide +kernel

example : ∀ op ∈ exOps, ∀ k, op.key? = some k → Csv.tokClean k = true := by decide +kernel

example : Csv.kvsOk [(['a'], .str ['x', '\n', '"']), (['k', '/', 'b'], .num ['1', '.', '5'])] = true := by decide +kernel

example : Csv.rowVisible [.missing, .missing] = true ∧ Csv.rowVisible [.str []] = true ∧ Csv.rowVisible [.missing] = false := by
  decide +kernel

example : meanVals ['m'] exOps = [3, 6] := by decide +kernel

example : keyShapeOk ['a', '/', 'b'] ∧ keyShapeOk ['l', 'r'] := by
  refine ⟨⟨by simp, by decide⟩, ⟨by simp, by decide⟩⟩

example : jvalOk (.num ['-', '1', '.', '5', 'e', '+', '0', '3']) = true ∧ jvalOk (.str ['"', '\\', '\n']) = true := by decide +kernel

/-- two keys truncated alike: the human format refuses (the `ValueError` of the code) -/
example : humanWrite exRender 5 [⟨['a', 'b', 'c', 'd', 'e', 'f', '1'], .int 1, 0, [[]]⟩, ⟨['a', 'b', 'c', 'd', 'e', 'f', '2'], .int 2, 0, [[]]⟩] = none := by
  decide +kernel

end SB3Verif.C20
