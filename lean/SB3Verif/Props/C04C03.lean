/-
C04 ∘ C03 — end to end: what can be *sampled* from the replay buffer after off-policy collection is one of the
environments' own transitions.

Composition of the collection model (`SB3Verif/Model/OffPolicy.lean`, theorems `Props/C04.lean`) with the
replay-buffer model (`SB3Verif/Model/Replay.lean`, theorems `Props/C03.lean`) through the adapter
`toOps` (`Lemmas/OffPolicyReplay.lean`): the rows `run cfg calls` hands to `replay_buffer.add` become C03's
`Op.add` history; C03's payloads are tags, so everything is stated for an arbitrary `Tagging` (any naming of
observations / stored actions / rewards by naturals; injective taggings make tags determine values).

`(run cfg calls).w.log[a][e]` is sub-environment `e`'s own record of vectorised step `a` (the observation it had
last returned, the action it received, its answer); `(run cfg calls).st.trace[a]` is what the collection did at
that step (`o.action` = the actions handed to `env.step`, `o.row` = the row added).
-/
import SB3Verif.Lemmas.OffPolicyReplay
import Mathlib.Algebra.Order.Ring.Rat

namespace SB3Verif.C04C03

open SB3Verif.OffPolicy SB3Verif.Lemmas.OffPolicy SB3Verif.Lemmas.OffPolicyReplay

variable {α : Type} [Add α] [Sub α] [Mul α] [Div α] [Neg α] [One α] [LT α] [DecidableLT α]

/-- **Sampled ⇒ environment transition** (standard variant). For every off-policy run without `VecNormalize`
(any `n_envs`, any observation wrapper, any episode scripts, any `train_freq` / `learning_starts` / split into
`learn()` calls with or without counter reset) and every replay buffer on the same number of envs (any
`buffer_size`, i.e. any capacity ≥ 1; with or without timeout handling; array or Dict), every `(slot, env)` pair
`sample` can gather holds sub-environment `e`'s own transition of ONE vectorised step `a` among the `capacity`
most recent ones: the observation the env had last returned (the one acted on), its own successor (the terminal
observation when the episode ended), the raw reward, the action stored next to the action the env received, and
`done = (terminated ∨ truncated) ∧ ¬(handle_timeout_termination ∧ truncated ∧ ¬terminated)`. -/
theorem sampled_is_env_transition (T : Tagging α) (cfg : Cfg α) (calls : List (Call α)) (rc : Replay.Cfg)
    (hv : cfg.vecNormalize = false) (hwf : ∀ c ∈ calls, c.wf cfg = true) (hn : rc.nEnvs = cfg.nEnvs)
    (hm : rc.memopt = false) (s e : ℕ)
    (h : (s, e) ∈ (Replay.run rc (toOps T (run cfg calls).st.buffer)).domain) :
    ∃ a ts t o, a < (run cfg calls).w.log.length ∧ (run cfg calls).w.log.length ≤ a + rc.cap ∧ a % rc.cap = s ∧
      e < cfg.nEnvs ∧
      (run cfg calls).w.log[a]? = some ts ∧ ts[e]? = some t ∧
      (run cfg calls).st.trace[a]? = some o ∧ o.action[e]? = some t.action ∧
      ((Replay.run rc (toOps T (run cfg calls).st.buffer)).get s e).obs = T.obs (cfg.post t.obs) ∧
      ((Replay.run rc (toOps T (run cfg calls).st.buffer)).get s e).next = T.obs (cfg.post t.next) ∧
      ((Replay.run rc (toOps T (run cfg calls).st.buffer)).get s e).rew = T.rew t.rew ∧
      ((Replay.run rc (toOps T (run cfg calls).st.buffer)).get s e).act = T.act (o.row.action.getD e []) ∧
      ((Replay.run rc (toOps T (run cfg calls).st.buffer)).get s e).done =
        if (t.term || t.trunc) && !(rc.hto && (t.trunc && !t.term)) then 1 else 0 := by
  obtain ⟨a, ts, t, o, hlt, hrecent, -, hslot, he, hts, ht, ho, hact, -, obs, rew, act, done, next, -⟩ :=
    sampled_cell T cfg _ (inv_run_of_no_vn cfg calls hv hwf) rc hn s e h
  exact ⟨a, ts, t, o, hlt, hrecent, hslot, he, hts, ht, ho, hact, obs, next hm, rew, act, done⟩

/-- **Recent environment transition ⇒ drawable** (standard variant): each of the `capacity` most recent
vectorised steps, each sub-environment, can be gathered by `sample` — at slot `a mod capacity`. Together with
`sampled_is_env_transition`: the drawable transitions are exactly the environments' last `capacity` steps. -/
theorem recent_env_transition_is_drawable (T : Tagging α) (cfg : Cfg α) (calls : List (Call α)) (rc : Replay.Cfg)
    (hv : cfg.vecNormalize = false) (hwf : ∀ c ∈ calls, c.wf cfg = true) (hn : rc.nEnvs = cfg.nEnvs)
    (hm : rc.memopt = false) (a e : ℕ) (ha : a < (run cfg calls).w.log.length)
    (hr : (run cfg calls).w.log.length ≤ a + rc.cap) (he : e < cfg.nEnvs) :
    (a % rc.cap, e) ∈ (Replay.run rc (toOps T (run cfg calls).st.buffer)).domain := by
  have hi := inv_run_of_no_vn cfg calls hv hwf
  have hL : (Replay.histOf (toOps T (run cfg calls).st.buffer)).length = (run cfg calls).w.log.length := by
    rw [histOf_toOps, hist_length T hi]
  have hb := Lemmas.Replay.inv_run rc (toOps T (run cfg calls).st.buffer)
  rw [Lemmas.Replay.mem_domain, hb.cfg_eq]
  exact ⟨Lemmas.Replay.slot_complete hb ⟨hL ▸ ha, hL ▸ hr, fun h => absurd (hm ▸ h) (by decide)⟩, hn ▸ he⟩

/-- **Memory-optimised variant, partial**: under the chaining the variant presupposes of the add history
(`Replay.Chained`: unless a stored transition ended an episode, the next add starts from its next observation —
true of collection inside one `learn()` call and across calls that do not reset the env), every drawable pair
holds sub-environment `e`'s own transition of one of the `capacity − 1` most recent steps as far as observation,
reward, stored action and done flag go, and — for transitions that did **not** end an episode, and for the newest
one in any case — its own successor. Episode-ending transitions followed by a later add return the next
episode's first observation instead (finding K-C03-a, `C03.memopt_done_next_counterexample`). -/
theorem sampled_is_env_transition_memopt_partial (T : Tagging α) (cfg : Cfg α) (calls : List (Call α))
    (rc : Replay.Cfg) (hv : cfg.vecNormalize = false) (hwf : ∀ c ∈ calls, c.wf cfg = true)
    (hn : rc.nEnvs = cfg.nEnvs) (hm : rc.memopt = true)
    (hch : Replay.Chained ((run cfg calls).st.buffer.map (toRow T))) (s e : ℕ)
    (h : (s, e) ∈ (Replay.run rc (toOps T (run cfg calls).st.buffer)).domain) :
    ∃ a ts t o, a < (run cfg calls).w.log.length ∧ (run cfg calls).w.log.length < a + rc.cap ∧ a % rc.cap = s ∧
      e < cfg.nEnvs ∧
      (run cfg calls).w.log[a]? = some ts ∧ ts[e]? = some t ∧
      (run cfg calls).st.trace[a]? = some o ∧ o.action[e]? = some t.action ∧
      ((Replay.run rc (toOps T (run cfg calls).st.buffer)).get s e).obs = T.obs (cfg.post t.obs) ∧
      ((Replay.run rc (toOps T (run cfg calls).st.buffer)).get s e).rew = T.rew t.rew ∧
      ((Replay.run rc (toOps T (run cfg calls).st.buffer)).get s e).act = T.act (o.row.action.getD e []) ∧
      ((Replay.run rc (toOps T (run cfg calls).st.buffer)).get s e).done =
        (if (t.term || t.trunc) && !(rc.hto && (t.trunc && !t.term)) then 1 else 0) ∧
      ((t.term || t.trunc) = false ∨ a + 1 = (run cfg calls).w.log.length →
        ((Replay.run rc (toOps T (run cfg calls).st.buffer)).get s e).next = T.obs (cfg.post t.next)) := by
  obtain ⟨a, ts, t, o, hlt, -, hstrict, hslot, he, hts, ht, ho, hact, hcell, obs, rew, act, done, -, next⟩ :=
    sampled_cell T cfg _ (inv_run_of_no_vn cfg calls hv hwf) rc hn s e h
  refine ⟨a, ts, t, o, hlt, hstrict hm, hslot, he, hts, ht, ho, hact, obs, rew, act, done, fun hcase => ?_⟩
  rw [next hm]
  split
  · rfl
  · next hl =>
    rcases hcase with hd | hl'
    · -- not an episode end: by chaining the next add starts from this transition's successor
      have hnext : a + 1 < ((run cfg calls).st.buffer.map (toRow T)).length :=
        hist_length T (inv_run_of_no_vn cfg calls hv hwf) ▸ Nat.lt_of_le_of_ne hlt hl
      rw [hch a e hnext (hcell ▸ hd), hcell]
      rfl
    · exact absurd hl' hl

/-! ### Non-vacuity: a concrete two-env run that wraps the ring
(`e2eCfg`, `e2eCalls`, `e2eBuf`, `e2eMem`, `exTag` are defined in `Lemmas/OffPolicyReplay.lean`: box actions in
`[-2, 6]`, `train_freq = 2`, two `learn()` calls, 5 vectorised steps into a ring of capacity `7 // 2 = 3`) -/

example : e2eCfg.vecNormalize = false ∧ (∀ c ∈ e2eCalls, c.wf e2eCfg = true) ∧ e2eBuf.nEnvs = e2eCfg.nEnvs ∧
    e2eBuf.memopt = false ∧ e2eBuf.cap = 3 := by decide +kernel

/-- 5 steps were collected, the ring wrapped: cursor at 2, full -/
example : (run e2eCfg e2eCalls).w.log.length = 5 ∧
    (Replay.run e2eBuf (toOps exTag (run e2eCfg e2eCalls).st.buffer)).pos = 2 ∧
    (Replay.run e2eBuf (toOps exTag (run e2eCfg e2eCalls).st.buffer)).full = true := by decide +kernel

/-- slot 0 now holds step 3: env 1's `terminated ∧ truncated` end — observation 202, successor the terminal
observation 203 (not the reset observation 300), reward 0, stored action `scale 2 = 0`, done 1 (not masked) -/
example : (0, 1) ∈ (Replay.run e2eBuf (toOps exTag (run e2eCfg e2eCalls).st.buffer)).domain ∧
    (Replay.run e2eBuf (toOps exTag (run e2eCfg e2eCalls).st.buffer)).get 0 1 =
      ⟨exTagQ 202, exTagQ 203, exTagQ 0, exTagQ 0, 1⟩ := by decide +kernel

/-- slot 1 holds step 4 (second `learn()` call, continued): env 0 went 12 → 13 with the action `-2`, stored `-1` -/
example : (Replay.run e2eBuf (toOps exTag (run e2eCfg e2eCalls).st.buffer)).get 1 0 =
    ⟨exTagQ 12, exTagQ 13, exTagQ (-1), exTagQ 2, 0⟩ := by decide +kernel

/-- steps 2, 3, 4 are drawable, steps 0 and 1 were overwritten: 3 slots × 2 envs -/
example : (Replay.run e2eBuf (toOps exTag (run e2eCfg e2eCalls).st.buffer)).domain =
    [(0, 0), (0, 1), (1, 0), (1, 1), (2, 0), (2, 1)] := by decide +kernel

/-- memory-optimised ring of capacity 3 on the same run: the overwritten slot `pos = 2` is excluded -/
example : e2eMem.memopt = true ∧ e2eMem.valid = true ∧ e2eMem.cap = 3 ∧
    (Replay.run e2eMem (toOps exTag (run e2eCfg e2eCalls).st.buffer)).sampleSlots = [0, 1] := by decide +kernel

/-- … and this run is chained (no env reset between the two `learn()` calls) -/
example : Replay.Chained ((run e2eCfg e2eCalls).st.buffer.map (toRow exTag)) :=
  chained_of_columns (n := 2) (by decide +kernel) (by decide +kernel)

/-- slot 0 (step 3, env 0: 11 → 12, not an episode end) carries its own successor in the memory-optimised ring -/
example : (Replay.run e2eMem (toOps exTag (run e2eCfg e2eCalls).st.buffer)).get 0 0 =
    ⟨exTagQ 11, exTagQ 12, exTagQ 1, exTagQ 1, 0⟩ := by decide +kernel

end SB3Verif.C04C03
