/-
C15 — VecNormalize statistics and transforms.

Property theorems only (helper lemmas: `SB3Verif/Lemmas/RunningMeanStd.lean`, `SB3Verif/Lemmas/VecNormalize.lean`,
`SB3Verif/Lemmas/VecNormalizeNum.lean`).
All statements are about the executable models `SB3Verif/Model/RunningMeanStd.lean` and
`SB3Verif/Model/VecNormalize.lean`, whose definitions the driver `SB3Verif/Driver/C15.lean` runs against the
real `RunningMeanStd` / `VecNormalize` / `sync_envs_normalization`.

Scalars: any linearly ordered field `α`; the square root is an arbitrary function (`HasSqrt α`), the only
thing ever needed about it is `sqrt (var + eps) ≠ 0`, which is shown for `Real.sqrt` and for the executed
`ratSqrt` at the end.

Three places where the code does not satisfy the property sentence as written are stated at full strength,
refuted by a concrete witness (`…_counterexample`, replayed on the implementation by the harness) and proved
under the missing hypothesis (`…_partial`):
  * observation statistics skip the batches returned while `norm_obs` is off, even in training mode;
  * the return accumulator stands still while `training` is off, so after training is switched back on
    inside an episode it is not the discounted return of that episode;
  * a wrapper built with `norm_obs=False` has no `obs_rms`: switching `norm_obs` on later fails.
-/
import SB3Verif.Lemmas.VecNormalizeNum

-- All statements are over an ordered field (from section 2 on: with a square root); many use less.
set_option linter.unusedSectionVars false

namespace SB3Verif.C15

open SB3Verif.RMS SB3Verif.VecNorm

variable {α : Type} [Field α] [LinearOrder α] [IsStrictOrderedRing α]

/-! ## 1. `RunningMeanStd`: the statistics are the moments of the stream, however it was batched -/

/-- **Parallel-variance merge is exact**: merging the moments of a non-empty sample `A` with the batch
moments of `B` gives exactly the moments (mean, population variance, size) of `A ++ B`. -/
theorem merge_exact (A B : List α) (hA : A ≠ []) :
    updateFromMoments (momentsOf A) (batchMean B) (batchVar B) (B.length : α) = momentsOf (A ++ B) :=
  Lemmas.RMS.update_momentsOf A B (List.append_ne_nil_of_left_ne_nil hA B)

/-- The merge adds weighted power sums `(count, count·mean, count·(var + mean²))` — for any statistics, any
batch moments and any (possibly fractional) batch count with non-zero total. -/
theorem merge_adds_power_sums (s : Mom α) (bm bv bc : α) (h : s.count + bc ≠ 0) :
    (updateFromMoments s bm bv bc).toSums = s.toSums.add ⟨bc, bm * bc, (bv + bm * bm) * bc⟩ :=
  Lemmas.RMS.toSums_updateFromMoments s bm bv bc h

/-- `combine(other)` adds the power sums of two running statistics of positive count (each with its own prior
weight). -/
theorem combine_adds_power_sums (a b : Mom α) (ha : 0 < a.count) (hb : 0 < b.count) :
    (combine a b).toSums = a.toSums.add b.toSums :=
  Lemmas.RMS.toSums_updateFromMoments a b.mean b.var b.count (add_pos ha hb).ne'

/-- The count stays positive. -/
theorem count_pos (p : Mom α) (bs : List (List α)) (hp : 0 < p.count) : 0 < (updateAll p bs).count := by
  induction bs generalizing p with
  | nil => exact hp
  | cons b bs ih => exact ih _ (Lemmas.RMS.count_update_pos p b hp)

/-- **However the stream was batched**: folding `update` over any list of batches equals one `update` with
the concatenated stream (prior of positive weight; empty batches allowed). -/
theorem update_fold_eq_concat (p : Mom α) (bs : List (List α)) (hp : 0 < p.count) :
    updateAll p bs = update p bs.flatten :=
  have h := (Lemmas.RMS.count_update_pos p bs.flatten hp).ne'
  Lemmas.RMS.eq_of_toSums_eq (count_pos p bs hp).ne' h
    ((Lemmas.RMS.toSums_updateAll p bs hp).trans (Lemmas.RMS.toSums_update p _ h).symm)

/-- Two batch splits of the same stream give the same statistics. -/
theorem batch_split_irrelevant (p : Mom α) (bs bs' : List (List α)) (hp : 0 < p.count)
    (h : bs.flatten = bs'.flatten) : updateAll p bs = updateAll p bs' := by
  rw [update_fold_eq_concat p bs hp, update_fold_eq_concat p bs' hp, h]

/-- **Closed form** after any sequence of batches with concatenation `xs`, `N = |xs|`, prior `(m₀, v₀, c₀)`:
`count = c₀ + N`, `mean = (c₀ m₀ + Σx)/(c₀ + N)`, `var = (c₀ (v₀ + m₀²) + Σx²)/(c₀ + N) − mean²`. -/
theorem stats_closed_form (p : Mom α) (bs : List (List α)) (hp : 0 < p.count) :
    (updateAll p bs).count = p.count + (bs.flatten.length : α) ∧
    (updateAll p bs).mean = (p.mean * p.count + lsum bs.flatten) / (p.count + (bs.flatten.length : α)) ∧
    (updateAll p bs).var =
      ((p.var + p.mean * p.mean) * p.count + lsum (bs.flatten.map fun x => x * x)) /
          (p.count + (bs.flatten.length : α)) -
        (updateAll p bs).mean * (updateAll p bs).mean := by
  rw [← Lemmas.RMS.toMom_toSums (updateAll p bs) (count_pos p bs hp).ne', Lemmas.RMS.toSums_updateAll p bs hp]
  exact ⟨rfl, rfl, rfl⟩

/-- **Two-pass form**: with `μ` the running mean, `count · var = c₀ (v₀ + (m₀ − μ)²) + Σ (x − μ)²` — the
variance is the weighted mean squared deviation of the prior pseudo-sample and of every value of the stream. -/
theorem stats_two_pass (p : Mom α) (bs : List (List α)) (hp : 0 < p.count) :
    (updateAll p bs).var * (updateAll p bs).count =
      p.count * (p.var + (p.mean - (updateAll p bs).mean) * (p.mean - (updateAll p bs).mean)) +
        lsum (bs.flatten.map fun x => (x - (updateAll p bs).mean) * (x - (updateAll p bs).mean)) := by
  -- the three power sums of the result, with no division, solved for `N`, `Σx`, `Σx²`
  have h := Lemmas.RMS.toSums_updateAll p bs hp
  have h0 : (bs.flatten.length : α) = (updateAll p bs).count - p.count := eq_sub_of_add_eq' (congrArg Sums.w h).symm
  have h1 : lsum bs.flatten = (updateAll p bs).mean * (updateAll p bs).count - p.mean * p.count :=
    eq_sub_of_add_eq' (congrArg Sums.s1 h).symm
  have h2 : lsum (bs.flatten.map fun x => x * x) =
      ((updateAll p bs).var + (updateAll p bs).mean * (updateAll p bs).mean) * (updateAll p bs).count -
        (p.var + p.mean * p.mean) * p.count := eq_sub_of_add_eq' (congrArg Sums.s2 h).symm
  rw [Lemmas.RMS.lsum_sq_dev, h2, h1, h0]
  ring

/-- Default prior of the code (`mean 0, var 1, count ε₀`): `mean = Σx/(ε₀+N)`, `var = (ε₀ + Σx²)/(ε₀+N) − mean²`. -/
theorem stats_default_prior (eps0 : α) (bs : List (List α)) (h0 : 0 < eps0) :
    (updateAll (Mom.prior eps0) bs).count = eps0 + (bs.flatten.length : α) ∧
    (updateAll (Mom.prior eps0) bs).mean = lsum bs.flatten / (eps0 + (bs.flatten.length : α)) ∧
    (updateAll (Mom.prior eps0) bs).var =
      (eps0 + lsum (bs.flatten.map fun x => x * x)) / (eps0 + (bs.flatten.length : α)) -
        (updateAll (Mom.prior eps0) bs).mean * (updateAll (Mom.prior eps0) bs).mean := by
  simpa only [Mom.prior, zero_mul, zero_add, mul_zero, add_zero, one_mul] using
    stats_closed_form (Mom.prior eps0) bs h0

/-- The running variance never becomes negative (so `var + eps > 0` whenever `eps > 0`). -/
theorem var_nonneg (p : Mom α) (bs : List (List α)) (hv : 0 ≤ p.var) (hp : 0 < p.count) :
    0 ≤ (updateAll p bs).var := by
  -- `var · count` is a sum of squares with non-negative weights (`stats_two_pass`)
  refine nonneg_of_mul_nonneg_left ?_ (count_pos p bs hp)
  rw [stats_two_pass p bs hp]
  exact add_nonneg (mul_nonneg hp.le (add_nonneg hv (mul_self_nonneg _))) (Lemmas.RMS.lsum_sq_nonneg _ _)

/-! ## 2. `VecNormalize`: which batches reach the statistics -/

variable [HasSqrt α]

/-- **Observation statistics along any history** (every sequence of reset / step / toggles / save-load, every
space, every `n_envs`): `obs_rms` is the fold of the per-key, per-coordinate `update` over exactly the
observation batches returned by `reset`/`step` while `training` and `norm_obs` were both on. Terminal
observations are never absorbed. -/
theorem obs_stats_track_absorbed (s : VN α) (evs : List (Ev α)) :
    (s.run evs).obsRms = (absorbedObs s.training s.normObs evs).foldl updateObsRms s.obsRms := by
  induction evs generalizing s with
  | nil => rfl
  | cons e evs ih =>
    rw [Lemmas.VecNorm.run_cons, ih]
    cases e with
    | reset o => simp only [VN.apply, Lemmas.VecNorm.reset_fst, absorbedObs, List.foldl_append]; split <;> rfl
    | step o r d t => simp only [VN.apply, Lemmas.VecNorm.stepWait_fst, absorbedObs, List.foldl_append]; split <;> rfl
    | _ => rfl

/-- **Partial (hypothesis: `norm_obs` is on and is never switched off)**: for every normalised key `k` and
coordinate `j` whose initial statistic has positive count, if every training-mode batch carries key `k` with as many
columns as `k` has statistics, the statistic equals one `update` of the initial value with the concatenation of column
`(k, j)` of *every* observation batch returned by `reset`/`step` in training mode — hence (by
`stats_closed_form`) the exact moments of that stream, whatever `n_envs` and however it was batched. -/
theorem obs_stats_track_stream_partial (s : VN α) (evs : List (Ev α)) (k : String) (ms : List (Mom α)) (j : ℕ)
    (hno : s.normObs = true) (hnever : ∀ e ∈ evs, e ≠ Ev.setNormObs false)
    (hk : s.obsRms.lookup k = some ms) (hj : j < ms.length) (hc : 0 < (ms[j]).count)
    (hshape : ∀ b ∈ trainingObs s.training evs, ∃ a, b.lookup k = some a ∧ a.length = ms.length) :
    ∃ ms', (s.run evs).obsRms.lookup k = some ms' ∧
      ms'[j]? = some (update (ms[j]) ((trainingObs s.training evs).map (column k j)).flatten) := by
  refine ⟨(trainingObs s.training evs).foldl (Lemmas.VecNorm.keyStep k) ms, ?_, ?_⟩
  · rw [obs_stats_track_absorbed, hno, Lemmas.VecNorm.absorbedObs_eq_trainingObs _ _ hnever,
      Lemmas.VecNorm.foldl_updateObsRms_lookup, hk]
    rfl
  · rw [Lemmas.VecNorm.foldl_keyStep_getElem? k ms _ hshape j, List.getElem?_eq_getElem hj, Option.map_some,
      update_fold_eq_concat _ _ hc]

/-- **Full-strength statement fails**: "in training mode the statistics are the moments of every batch
returned so far" — with `norm_obs` switched off the wrapper stays in training mode, returns a batch, and the
statistics do not move. Witness: one environment, one coordinate, `norm_obs := False; reset() → 3`. -/
theorem obs_stats_track_stream_counterexample :
    ∃ (s : VN ℚ) (evs : List (Ev ℚ)), s.training = true ∧ s.hasObsRms = true ∧
      (s.run evs).obsRms ≠ (trainingObs s.training evs).foldl updateObsRms s.obsRms :=
  ⟨VN.init ⟨10, 10, 1, 0⟩ 1 true true true 1 [("", 1)],
   [Ev.setNormObs false, Ev.reset [("", [[3]])]], rfl, rfl, by decide +kernel⟩

/-- The keys that carry statistics are the same after any history (a key outside `norm_obs_keys` never acquires
any). -/
theorem stats_keys_fixed (s : VN α) (evs : List (Ev α)) :
    (s.run evs).obsRms.map Prod.fst = s.obsRms.map Prod.fst := by
  rw [obs_stats_track_absorbed]
  generalize absorbedObs s.training s.normObs evs = bs
  generalize s.obsRms = rms
  induction bs generalizing rms with
  | nil => rfl
  | cons b bs ih => rw [List.foldl_cons, ih, Lemmas.VecNorm.updateObsRms_keys]

/-- **Return statistics along any history** started from zero accumulators: the accumulator of every
environment is `discRet γ` (= `Σ γ^(n-1-i) rᵢ`) of the rewards `retTrace` lists for it — appended by every
training-mode step, emptied when the environment finishes an episode, by `reset` and by loading — and
`ret_rms` is the fold of `update` over the vectors of these discounted returns, one per training-mode step. -/
theorem ret_stats_track_returns (s : VN α) (evs : List (Ev α)) (h0 : s.returns = List.replicate s.nEnvs 0) :
    (s.run evs).returns =
        (retTrace s.cfg.gamma s.nEnvs s.training (List.replicate s.nEnvs []) evs).1.map (discRet s.cfg.gamma) ∧
      (s.run evs).retRms =
        updateAll s.retRms (retTrace s.cfg.gamma s.nEnvs s.training (List.replicate s.nEnvs []) evs).2 :=
  Lemmas.VecNorm.run_ret s (List.replicate s.nEnvs []) evs (h0.trans (Lemmas.VecNorm.replicate_zero ..))

/-- The accumulator recursion `R ← R·γ + r` from `0` is the discounted sum `Σ_i γ^(n-1-i) · rᵢ`. -/
theorem discounted_return_closed_form (γ : α) (rs : List α) :
    discRet γ rs = ∑ i ∈ Finset.range rs.length, γ ^ (rs.length - 1 - i) * rs.getD i 0 := by
  rw [discRet, Lemmas.VecNorm.foldl_discount, zero_mul, zero_add]

/-- **Partial (hypothesis: training is on and never switched off)**: the accumulators are the discounted
returns of the rewards of the *running episodes* (every reward since the episode began). -/
theorem ret_stats_track_returns_partial (s : VN α) (evs : List (Ev α)) (h0 : s.returns = List.replicate s.nEnvs 0)
    (htr : s.training = true) (hnever : ∀ e ∈ evs, e ≠ Ev.setTraining false) :
    (s.run evs).returns =
      (episodeRewards s.nEnvs (List.replicate s.nEnvs []) evs).map (discRet s.cfg.gamma) := by
  rw [(ret_stats_track_returns s evs h0).1, htr, Lemmas.VecNorm.retTrace_eq_episodeRewards _ _ _ _ hnever]

/-- **Full-strength statement fails**: with `training` switched off for one step and on again inside an
episode the accumulator misses that step's reward: it holds `1`, the episode's discounted return is `2`
(`γ = 1`, rewards `1, 1`, no episode end). -/
theorem ret_stats_track_returns_counterexample :
    ∃ (s : VN ℚ) (evs : List (Ev ℚ)), s.returns = List.replicate s.nEnvs 0 ∧
      (s.run evs).returns ≠ (episodeRewards s.nEnvs (List.replicate s.nEnvs []) evs).map (discRet s.cfg.gamma) :=
  ⟨VN.init ⟨10, 10, 1, 0⟩ 1 true false true 1 [],
   [Ev.reset [("", [[0]])], Ev.setTraining false, Ev.step [("", [[0]])] [1] [false] [none],
    Ev.setTraining true, Ev.step [("", [[0]])] [1] [false] [none]], rfl, by decide +kernel⟩

/-- **Accumulators restart when an episode ends**: after `step_wait` the accumulator of every finished
environment is `0` … -/
theorem returns_restart_on_done (s : VN α) (o : Batch α) (r : List α) (d : List Bool) (t : List (Option (Batch α)))
    (e : ℕ) (hd : d[e]? = some true) (x : α) (hx : (s.stepWait o r d t).1.returns[e]? = some x) : x = 0 := by
  rw [Lemmas.VecNorm.stepWait_fst] at hx
  obtain ⟨dn, R, h1, -, rfl⟩ := List.getElem?_zipWith_eq_some.mp hx
  obtain rfl : true = dn := Option.some.inj (hd.symm.trans h1)
  rfl

/-- … an environment that goes on, in training mode, has `R·γ + r` … -/
theorem returns_step_recursion (s : VN α) (o : Batch α) (r : List α) (d : List Bool) (t : List (Option (Batch α)))
    (e : ℕ) (htr : s.training = true) (hd : d[e]? = some false) (R x : α) (hR : s.returns[e]? = some R)
    (hx : r[e]? = some x) : (s.stepWait o r d t).1.returns[e]? = some (R * s.cfg.gamma + x) := by
  rw [Lemmas.VecNorm.stepWait_fst]
  show (List.zipWith _ d _)[e]? = _
  rw [htr, if_pos rfl, List.getElem?_zipWith, hd, List.getElem?_zipWith, hR, hx]
  rfl

/-- … and `reset()` zeroes them all. -/
theorem returns_restart_on_reset (s : VN α) (o : Batch α) : (s.reset o).1.returns = List.replicate s.nEnvs 0 :=
  (congrArg VN.returns (Lemmas.VecNorm.reset_fst s o) :)

/-- **The restart does not look at the infos**: whatever `terminal_observation`s the inner VecEnv supplies (none,
some, all), `step_wait` leaves the same state — statistics, accumulators, raw values. In particular an inner
VecEnv that auto-resets without reporting terminal observations still restarts the accumulators on `done`. -/
theorem returns_restart_independent_of_info (s : VN α) (o : Batch α) (r : List α) (d : List Bool)
    (t t' : List (Option (Batch α))) : (s.stepWait o r d t).1 = (s.stepWait o r d t').1 := rfl

/-- **Frozen when not training**: whatever happens while `training` is off (resets, steps with any data,
`norm_obs`/`norm_reward` toggles, save-load) leaves every statistic as it was. -/
theorem frozen_when_not_training (s : VN α) (evs : List (Ev α)) (h : s.training = false)
    (he : ∀ e ∈ evs, e ≠ Ev.setTraining true) :
    (s.run evs).obsRms = s.obsRms ∧ (s.run evs).retRms = s.retRms := by
  induction evs generalizing s with
  | nil => exact ⟨rfl, rfl⟩
  | cons e evs ih =>
    obtain ⟨h1, h2, h3⟩ := Lemmas.VecNorm.apply_frozen s e h (he e (List.mem_cons_self ..))
    rw [Lemmas.VecNorm.run_cons, ← h2, ← h3]
    exact ih (s.apply e) h1 fun e' he' => he e' (List.mem_cons_of_mem _ he')

/-! ## 3. Transforms -/

/-- **Returned observations are the clipped standardised values**: for a normalised key `k` with statistics
`ms`, element `(j, e)` of the result is `clip((x − mean_j)/sqrt(var_j + ε), −c, c)`. -/
theorem normalize_formula (s : VN α) (b : Batch α) (k : String) (a : Arr α) (ms : List (Mom α))
    (hno : s.normObs = true) (hb : b.lookup k = some a) (hk : s.obsRms.lookup k = some ms) :
    (s.normalizeObs b).lookup k =
      some (List.zipWith (fun m col => col.map fun x =>
        clip ((x - m.mean) / HasSqrt.sqrt (m.var + s.cfg.eps)) (-s.cfg.clipObs) s.cfg.clipObs) ms a) := by
  unfold VN.normalizeObs
  rw [if_pos hno, Lemmas.VecNorm.mapKeys_lookup, hb, hk]
  rfl

/-- Rewards: `clip(r / sqrt(var_ret + ε), −c, c)` (scaled by the deviation of the returns, not centred). -/
theorem normalize_reward_formula (s : VN α) (r : List α) (hnr : s.normRew = true) :
    s.normalizeReward r =
      r.map fun x => clip (x / HasSqrt.sqrt (s.retRms.var + s.cfg.eps)) (-s.cfg.clipRew) s.cfg.clipRew := by
  unfold VN.normalizeReward
  rw [if_pos hnr]
  rfl

/-- `step_wait` returns the raw observation / reward normalised with the statistics *as updated by this very
step* (the resulting state), and `reset` likewise. -/
theorem returned_values_are_normalized (s : VN α) (o : Batch α) (r : List α) (d : List Bool)
    (t : List (Option (Batch α))) :
    (s.stepWait o r d t).2.obs = (s.stepWait o r d t).1.normalizeObs o ∧
      (s.stepWait o r d t).2.rew = (s.stepWait o r d t).1.normalizeReward r ∧
      (s.reset o).2 = (s.reset o).1.normalizeObs o :=
  have h := Lemmas.VecNorm.stepWait_snd s o r d t
  ⟨congrArg StepOut.obs h, congrArg StepOut.rew h, rfl⟩

/-- **Terminal observations get the same transform**: the terminal observation of every finished environment
is passed through exactly the function applied to the returned observation; others are left alone. -/
theorem terminal_same_transform (s : VN α) (o : Batch α) (r : List α) (d : List Bool)
    (t : List (Option (Batch α))) :
    (s.stepWait o r d t).2.terms =
      List.zipWith (fun dn tb => if dn then tb.map ((s.stepWait o r d t).1.normalizeObs) else tb) d t :=
  congrArg StepOut.terms (Lemmas.VecNorm.stepWait_snd s o r d t)

/-- **Keys that are not normalised pass through untouched**, in both directions; `normalize_obs` keeps the list
of keys. -/
theorem untouched_keys (s : VN α) (b : Batch α) (k : String) (h : s.obsRms.lookup k = none) :
    (s.normalizeObs b).lookup k = b.lookup k ∧ (s.unnormalizeObs b).lookup k = b.lookup k ∧
      (s.normalizeObs b).map Prod.fst = b.map Prod.fst := by
  unfold VN.normalizeObs VN.unnormalizeObs
  split
  · exact ⟨Lemmas.VecNorm.mapKeys_lookup_untouched _ _ _ _ h, Lemmas.VecNorm.mapKeys_lookup_untouched _ _ _ _ h,
      Lemmas.VecNorm.mapKeys_keys _ _ _⟩
  · exact ⟨rfl, rfl, rfl⟩

/-- With `norm_obs` / `norm_reward` off the values come back raw. -/
theorem norm_off_identity (s : VN α) (b : Batch α) (r : List α) :
    (s.normObs = false → s.normalizeObs b = b ∧ s.unnormalizeObs b = b) ∧
      (s.normRew = false → s.normalizeReward r = r ∧ s.unnormalizeReward r = r) := by
  constructor
  · intro h; simp [VN.normalizeObs, VN.unnormalizeObs, h]
  · intro h; simp [VN.normalizeReward, VN.unnormalizeReward, h]

/-- **Normalised values lie in the clip range.** -/
theorem normalize_clipped (m : Mom α) (eps c x : α) (hc : 0 ≤ c) :
    |normScalar m eps c x| ≤ c ∧ |normRewScalar m eps c x| ≤ c :=
  have h (y : α) : |clip y (-c) c| ≤ c := abs_le.mpr (Lemmas.VecNorm.clip_mem y _ _ (neg_le_self hc))
  ⟨h _, h _⟩

/-- Outside the range the result is the nearer bound. -/
theorem normalize_saturates (m : Mom α) (eps c x : α) (hc : 0 ≤ c) :
    (c < (x - m.mean) / sd m eps → normScalar m eps c x = c) ∧
      ((x - m.mean) / sd m eps < -c → normScalar m eps c x = -c) :=
  ⟨fun h => Lemmas.VecNorm.clip_eq_hi _ _ _ h.le, fun h => Lemmas.VecNorm.clip_eq_lo _ _ _ (neg_le_self hc) h.le⟩

/-- **Unnormalising inverts normalising inside the clip range** (one value; only `sqrt(var+ε) ≠ 0` is used). -/
theorem unnormalize_normalize (m : Mom α) (eps c x : α) (hs : sd m eps ≠ 0)
    (h : |(x - m.mean) / sd m eps| ≤ c) : unnormScalar m eps (normScalar m eps c x) = x :=
  Lemmas.VecNorm.unnormWith_normWith _ _ c x hs h

/-- … and likewise for rewards (scaled, not centred). -/
theorem unnormalize_normalize_reward (m : Mom α) (eps c r : α) (hs : sd m eps ≠ 0)
    (h : |r / sd m eps| ≤ c) : unnormRewScalar m eps (normRewScalar m eps c r) = r := by
  unfold unnormRewScalar normRewScalar
  obtain ⟨h1, h2⟩ := abs_le.mp h
  rw [Lemmas.VecNorm.clip_eq_self _ _ _ h1 h2, div_mul_cancel₀ _ hs]

/-- … for whole observations (Box or Dict, any subset of normalised keys): if on every normalised key each
coordinate's deviation is non-zero and each value is inside the clip range, `unnormalize_obs ∘ normalize_obs`
is the identity. -/
theorem unnormalize_normalize_obs (s : VN α) (b : Batch α)
    (h : ∀ ka ∈ b, ∀ ms, s.obsRms.lookup ka.1 = some ms →
      List.Forall₂ (fun m col => sd m s.cfg.eps ≠ 0 ∧ ∀ x ∈ col, |(x - m.mean) / sd m s.cfg.eps| ≤ s.cfg.clipObs) ms ka.2) :
    s.unnormalizeObs (s.normalizeObs b) = b := by
  unfold VN.unnormalizeObs VN.normalizeObs
  split
  · rw [Lemmas.VecNorm.mapKeys_mapKeys]
    apply Lemmas.VecNorm.mapKeys_id_of
    intro ka hka ms hms
    exact Lemmas.VecNorm.unnormArr_normArr ms _ _ ka.2 (h ka hka ms hms)
  · rfl

/-- **`get_original_obs` / `get_original_reward` are the raw values of the latest step**, after any history. -/
theorem get_original_is_raw_latest (s : VN α) (evs : List (Ev α)) (o : Batch α) (r : List α) (d : List Bool)
    (t : List (Option (Batch α))) :
    (s.run (evs ++ [Ev.step o r d t])).getOriginalObs = o ∧
      (s.run (evs ++ [Ev.step o r d t])).getOriginalReward = r := by
  rw [Lemmas.VecNorm.run_append]
  have h := Lemmas.VecNorm.stepWait_fst (s.run evs) o r d t
  exact ⟨(congrArg VN.oldObs h :), (congrArg VN.oldRew h :)⟩

/-- After `reset` the raw observation is the reset observation; the raw reward is still the latest step's. -/
theorem get_original_after_reset (s : VN α) (evs : List (Ev α)) (o : Batch α) :
    (s.run (evs ++ [Ev.reset o])).getOriginalObs = o ∧
      (s.run (evs ++ [Ev.reset o])).getOriginalReward = (s.run evs).getOriginalReward := by
  rw [Lemmas.VecNorm.run_append]
  have h := Lemmas.VecNorm.reset_fst (s.run evs) o
  exact ⟨(congrArg VN.oldObs h :), (congrArg VN.oldRew h :)⟩

/-- Toggles and save-load keep them. -/
theorem get_original_kept (s : VN α) (e : Ev α) (h : (∀ o, e ≠ Ev.reset o) ∧ ∀ o r d t, e ≠ Ev.step o r d t) :
    (s.apply e).getOriginalObs = s.getOriginalObs ∧ (s.apply e).getOriginalReward = s.getOriginalReward := by
  cases e with
  | reset o => exact absurd rfl (h.1 o)
  | step o r d t => exact absurd rfl (h.2 o r d t)
  | _ => exact ⟨rfl, rfl⟩

/-! ## 4. Saving / loading / synchronising -/

/-- **Save + load preserves every statistic and setting**; the return accumulators start from zero. -/
theorem save_load_preserves (s : VN α) (n : ℕ) :
    (s.saveLoad n).obsRms = s.obsRms ∧ (s.saveLoad n).retRms = s.retRms ∧ (s.saveLoad n).cfg = s.cfg ∧
      (s.saveLoad n).training = s.training ∧ (s.saveLoad n).normObs = s.normObs ∧ (s.saveLoad n).normRew = s.normRew ∧
      (s.saveLoad n).hasObsRms = s.hasObsRms ∧ (s.saveLoad n).oldObs = s.oldObs ∧ (s.saveLoad n).oldRew = s.oldRew ∧
      (s.saveLoad n).returns = List.replicate n 0 :=
  ⟨rfl, rfl, rfl, rfl, rfl, rfl, rfl, rfl, rfl, rfl⟩

/-- **Synchronising copies every statistic** of a source that has observation statistics into the destination,
and leaves the destination's settings and return accumulators as they were. -/
theorem sync_preserves (dst src : VN α) (h : src.hasObsRms = true) :
    (dst.syncFrom src).obsRms = src.obsRms ∧ (dst.syncFrom src).retRms = src.retRms ∧
      (dst.syncFrom src).hasObsRms = true ∧ (dst.syncFrom src).cfg = dst.cfg ∧
      (dst.syncFrom src).training = dst.training ∧ (dst.syncFrom src).normObs = dst.normObs ∧
      (dst.syncFrom src).normRew = dst.normRew ∧ (dst.syncFrom src).returns = dst.returns := by
  simp [VN.syncFrom, h]

/-- A source without observation statistics leaves the destination's alone (return statistics still copied). -/
theorem sync_without_obs_rms (dst src : VN α) (h : src.hasObsRms = false) :
    (dst.syncFrom src).obsRms = dst.obsRms ∧ (dst.syncFrom src).retRms = src.retRms ∧
      (dst.syncFrom src).hasObsRms = dst.hasObsRms := by
  simp [VN.syncFrom, h]

/-- After synchronising, two wrappers with the same settings transform every observation and reward alike. -/
theorem sync_transforms_alike (dst src : VN α) (h : src.hasObsRms = true) (hc : dst.cfg = src.cfg)
    (hn : dst.normObs = src.normObs) (hr : dst.normRew = src.normRew) (b : Batch α) (r : List α) :
    (dst.syncFrom src).normalizeObs b = src.normalizeObs b ∧ (dst.syncFrom src).normalizeReward r = src.normalizeReward r := by
  unfold VN.normalizeObs VN.normalizeReward VN.syncFrom
  rw [h, hc, hn, hr]
  exact ⟨rfl, rfl⟩

/-! ## 5. `norm_obs` switched on after construction without it -/

/-- A wrapper that has its `obs_rms` (constructed with `norm_obs=True`, or synchronised from one that was)
never fails, whatever is toggled. -/
theorem toggling_never_fails_partial (s : VN α) (evs : List (Ev α)) (h : s.hasObsRms = true) :
    s.run? evs = some (s.run evs) := by
  induction evs generalizing s with
  | nil => rfl
  | cons e evs ih =>
    have hne : s.obsError = false := by rw [VN.obsError, h]; exact Bool.and_false _
    have happ : s.apply? e = some (s.apply e) := by
      cases e with
      | reset o | step o r d t => exact if_neg (hne ▸ Bool.false_ne_true)
      | _ => rfl
    show (match s.apply? e with | none => none | some s' => s'.run? evs) = _
    rw [happ]
    exact ih _ ((Lemmas.VecNorm.apply_hasObsRms s e).trans h)

/-- **"norm_obs toggled at any time" fails** for a wrapper constructed with `norm_obs=False`: it has no
`obs_rms`, the first `reset`/`step` after switching `norm_obs` on raises. -/
theorem toggling_never_fails_counterexample :
    ∃ (s : VN ℚ) (evs : List (Ev ℚ)), s.run? evs = none :=
  ⟨VN.init ⟨10, 10, 1, 0⟩ 1 true false true 1 [("", 1)], [Ev.setNormObs true, Ev.reset [("", [[3]])]], by decide⟩

/-! ## 6. The square roots: `sqrt(var + ε) > 0` along every stream -/

/-- `var + ε > 0` after any stream when `ε > 0` (prior with `var ≥ 0`, `count > 0`). -/
theorem var_add_eps_pos (p : Mom α) (bs : List (List α)) (eps : α) (hv : 0 ≤ p.var) (hp : 0 < p.count)
    (he : 0 < eps) : 0 < (updateAll p bs).var + eps :=
  add_pos_of_nonneg_of_pos (var_nonneg p bs hv hp) he

/-- Over the reals (`Real.sqrt`) the deviation used by normalise/unnormalise is positive along every stream. -/
theorem sd_pos_real (p : Mom ℝ) (bs : List (List ℝ)) (eps : ℝ) (hv : 0 ≤ p.var) (hp : 0 < p.count) (he : 0 < eps) :
    0 < sd (updateAll p bs) eps :=
  Real.sqrt_pos.mpr (var_add_eps_pos p bs eps hv hp he)

/-- The same for the executed rational square root. -/
theorem sd_pos_rat (p : Mom ℚ) (bs : List (List ℚ)) (eps : ℚ) (hv : 0 ≤ p.var) (hp : 0 < p.count) (he : 0 < eps) :
    0 < sd (updateAll p bs) eps :=
  Lemmas.VecNorm.ratSqrt_pos _ (var_add_eps_pos p bs eps hv hp he)

/-- Accuracy of the executed square root: `ratSqrt q ≤ √q < ratSqrt q + 1/(den q · 2⁶⁴)` for `q > 0`, stated
without a real square root as `r² ≤ q < (r + δ)²`. -/
theorem ratSqrt_accuracy (q : ℚ) (h : 0 < q) :
    ratSqrt q * ratSqrt q ≤ q ∧
      q < (ratSqrt q + 1 / ((q.den : ℚ) * 2 ^ 64)) * (ratSqrt q + 1 / ((q.den : ℚ) * 2 ^ 64)) := by
  obtain ⟨N, hN, hr⟩ := Lemmas.VecNorm.ratSqrt_eq q h
  rw [hr]
  exact Lemmas.VecNorm.natSqrt_div_bounds N _ q (by positivity) hN

/-! ## Non-vacuity: the hypotheses above are met by concrete non-trivial data -/

/-- two batch splits of the stream 1, 2, 3, 6 from the prior (0, 1, 1/2) -/
example : updateAll (Mom.prior (1 / 2 : ℚ)) [[1, 2], [3, 6]] = updateAll (Mom.prior (1 / 2 : ℚ)) [[1], [2, 3, 6]] := by
  decide +kernel

example : updateAll (Mom.prior (1 / 2 : ℚ)) [[1, 2], [3, 6]] = ⟨8 / 3, 37 / 9, 9 / 2⟩ := by decide +kernel

example : (0 : ℚ) < (Mom.prior (1 / 2 : ℚ)).count := by decide +kernel

example : momentsOf ([1, 3] : List ℚ) = ⟨2, 1, 2⟩ := by decide +kernel

/-- a 2-environment Box wrapper, training with `norm_obs` on: hypotheses of `obs_stats_track_stream_partial` -/
example : (VN.init (⟨10, 10, 1 / 2, 1⟩ : Cfg ℚ) 2 true true true 1 [("", 1)]).obsRms.lookup "" = some [Mom.prior 1] := by
  decide +kernel

example : trainingObs true ([Ev.reset [("", [[1, 2]])], Ev.setTraining false, Ev.reset [("", [[5, 5]])],
    Ev.setTraining true, Ev.step [("", [[3, 6]])] [1, 1] [false, true] [none, none]] : List (Ev ℚ)) =
    [[("", [[1, 2]])], [("", [[3, 6]])]] := by decide +kernel

/-- all hypotheses of `obs_stats_track_stream_partial` hold for this history (a freeze in the middle, one
episode end): coordinate 0 of the statistics is one update with the training-mode stream 1, 2, 3, 6 -/
example : ∃ ms', ((VN.init (⟨10, 10, 1 / 2, 1⟩ : Cfg ℚ) 2 true true true 1 [("", 1)]).run
      [Ev.reset [("", [[1, 2]])], Ev.setTraining false, Ev.reset [("", [[5, 5]])], Ev.setTraining true,
       Ev.step [("", [[3, 6]])] [1, 1] [false, true] [none, none]]).obsRms.lookup "" = some ms' ∧
    ms'[0]? = some (update (Mom.prior 1) [1, 2, 3, 6]) :=
  obs_stats_track_stream_partial _ _ "" [Mom.prior 1] 0 rfl (by intro e he h; subst h; contradiction)
    (by decide +kernel) (by decide) (by decide +kernel) (by decide +kernel)

/-- `frozen_when_not_training`: a frozen wrapper fed with data, toggles and a save-load -/
example : ((VN.init (⟨10, 10, 1 / 2, 1⟩ : Cfg ℚ) 2 false true true 1 [("", 1)]).run
      [Ev.reset [("", [[1, 2]])], Ev.step [("", [[3, 6]])] [1, 1] [false, true] [none, none], Ev.setNormRew false,
       Ev.saveLoad]).obsRms = [("", [Mom.prior 1])] :=
  (frozen_when_not_training _ _ rfl (by intro e he h; subst h; contradiction)).1

/-- `ret_stats_track_returns_partial`: training throughout, one episode end in environment 1 -/
example : ((VN.init (⟨10, 10, 1 / 2, 1⟩ : Cfg ℚ) 2 true true true 1 [("", 1)]).run
      [Ev.reset [("", [[1, 2]])], Ev.step [("", [[3, 6]])] [1, 1] [false, true] [none, none],
       Ev.step [("", [[0, 0]])] [2, 4] [false, false] [none, none]]).returns =
    [discRet (1 / 2) [1, 2], discRet (1 / 2) [4]] :=
  ret_stats_track_returns_partial _ _ rfl rfl (by intro e he h; subst h; contradiction)

/-- `unnormalize_normalize_obs`: a Dict observation, key "a" normalised and inside the range, key "d" not normalised -/
example : (⟨⟨10, 10, 1, 1⟩, 1, true, true, true, true, [("a", [⟨1, 3, 5⟩])], ⟨0, 1, 1⟩, [0], [], []⟩ : VN ℚ).unnormalizeObs
    ((⟨⟨10, 10, 1, 1⟩, 1, true, true, true, true, [("a", [⟨1, 3, 5⟩])], ⟨0, 1, 1⟩, [0], [], []⟩ : VN ℚ).normalizeObs
      [("a", [[4]]), ("d", [[7]])]) = [("a", [[4]]), ("d", [[7]])] := by decide +kernel

/-- a history with a freeze and an episode end; statistics and accumulators computed by the model -/
example : ((VN.init (⟨10, 10, 1 / 2, 1⟩ : Cfg ℚ) 2 true true true 1 [("", 1)]).run
    [Ev.reset [("", [[1, 2]])], Ev.step [("", [[3, 6]])] [1, 1] [false, true] [none, none],
     Ev.step [("", [[0, 0]])] [2, 4] [false, false] [none, none]]).returns = [5 / 2, 4] := by decide +kernel

/-- inside the clip range and with a non-zero deviation (`sqrt` of `3 + 1 = 4` is `2` for `ratSqrt`) -/
example : sd (⟨1, 3, 5⟩ : Mom ℚ) 1 = 2 := by decide +kernel
example : |((4 : ℚ) - 1) / 2| ≤ 10 := by norm_num
example : unnormScalar (⟨1, 3, 5⟩ : Mom ℚ) 1 (normScalar ⟨1, 3, 5⟩ 1 10 4) = 4 := by decide +kernel
/-- outside the clip range the inverse does not return the input -/
example : unnormScalar (⟨1, 3, 5⟩ : Mom ℚ) 1 (normScalar ⟨1, 3, 5⟩ 1 1 4) = 3 := by decide +kernel

end SB3Verif.C15
