/-
C12 × C13 — the two independently written models of the `learn` loop agree.

`SB3Verif.Learn` (Model/Learn.lean, C12) and `SB3Verif.Callback` (Model/Callback.lean: `LS`, `LS.next`, `runN`, C13)
were written by different people from the same source (`_setup_learn`, the two `learn` / `collect_rollouts` loops).
The theorems below show that, for every configuration expressible in both, they make the SAME callback-visible
trace: training start with its counter, rollout starts, every step with its `num_timesteps`, rollout ends, training
end — hence the same number of steps per rollout and the same place where each `learn` call ends.

Translation of the input conventions (definitions in `Lemmas/LearnCallback.lean`):
* `cbCfg cfg dones` — the `Callback` configuration of a `Learn` configuration (on/off-policy, `n_envs`, `n_steps` or
  `train_freq` in steps or episodes); every `Callback` configuration except "on-policy with episode-counted rollouts"
  (which does not exist in the code) is of this form; the update-related fields of `Learn.Cfg` have no counterpart;
* `opsOf dones g0 trace` — `Callback` receives a stop request as the handler's answer to `step` and episode ends as a
  function `dones g` of the global environment-step index; `Learn` receives both with each `env` input: the `i`-th
  `step` call with answer `ok` becomes `env (!ok) (dones (g0+i)) []`;
* `projC` / `projE` — the two projections to `trainingStart n / rolloutStart / step n / rolloutEnd / trainingEnd`
  (`update_locals` calls, progress updates and `train()` events are not callback-visible events and are dropped).
Since the stop answers are read off the `Callback` machine's own log, the agreement holds for EVERY handler `h`
(every callback tree, leaf, absent callback, …), every episode-end function and every fuel.

Side condition `0 < rolloutParam cfg` (`n_steps ≥ 1` / `train_freq ≥ 1`): for `0` the code itself asserts or crashes and the
two models do different things (`Callback` loops through empty rollouts, `Learn` makes a step).
-/
import SB3Verif.Lemmas.LearnCallback

namespace SB3Verif.C12C13

open SB3Verif.Learn SB3Verif.LearnCallback
open SB3Verif.Callback (Call Dones LS Pc)

/-- **One `learn` call.** Start the `Callback` machine where the `Learn` machine is (`prevNum = st0.num`, any idle
`st0`, `g0` environment steps made before), with any handler `h`, any callback state and any fuel. If it completes the
call, then feeding `Learn` the translated inputs gives the same callback-visible trace, `Learn` is idle again, and
both machines end with the same counter and the same target. -/
theorem learn_loop_models_agree {σ : Type} (cfg : Learn.Cfg) (dones : Dones) (hsz : 0 < rolloutParam cfg) (st0 : State)
    (h0 : st0.running = false) (T : ℕ) (r : Bool) (g0 : ℕ) (h : σ → Call → σ × Bool) (cb : σ) (fuel : ℕ) :
    let s := LS.runN (cbCfg cfg dones) h fuel (LS.setup st0.num g0 cb T r)
    let R := run cfg st0 (.learn T r :: opsOf dones g0 s.trace)
    s.pc = .done →
      projC s.trace = projE R.2 ∧ R.1.running = false ∧ R.1.num = s.num ∧ R.1.total = s.total :=
  (inv_runN hsz h fuel _ (inv_setup cfg dones st0 h0 T r g0 cb)).agree

/-- **Any sequence of `learn` calls** (with and without counter reset, stopped or not), each machine threading its
own state from call to call (`SeqAgree`): every completed call has coinciding callback-visible traces and final
counters. -/
theorem learn_loop_models_agree_seq {σ : Type} (cfg : Learn.Cfg) (dones : Dones) (hsz : 0 < rolloutParam cfg)
    (h : σ → Call → σ × Bool) (cs : List CallSpec) (g0 : ℕ) (cb : σ) :
    SeqAgree cfg dones h State.init 0 g0 cb cs :=
  seq_agree cfg dones hsz h cs State.init 0 g0 cb rfl rfl

/-- The same for the other model's own entry point `Callback.learn` with a callback tree (leaf, lists, event
callbacks, absent callback …) as handler. -/
theorem learn_loop_agrees_with_callback_tree (cfg : Learn.Cfg) (dones : Dones) (hsz : 0 < rolloutParam cfg) (st0 : State)
    (h0 : st0.running = false) (T : ℕ) (r : Bool) (g0 : ℕ) (tree : Callback.Run) (fuel : ℕ) :
    let s := Callback.learn (cbCfg cfg dones) fuel st0.num g0 tree T r
    let R := run cfg st0 (.learn T r :: opsOf dones g0 s.trace)
    s.pc = .done → projC s.trace = projE R.2 ∧ R.1.running = false ∧ R.1.num = s.num := by
  intro s R hd
  have := (inv_runN hsz (Callback.treeHandler (cbCfg cfg dones).dones) fuel _
    (inv_setup cfg dones st0 h0 T r g0 ({ tree with evs := [] } : Callback.Run))).agree hd
  exact ⟨this.1, this.2.1, this.2.2.1⟩

/-! ### concrete multi-call histories, checked by evaluation of both machines -/

/-- PPO (2 envs × 4 steps): `learn(20)` runs to 24; the callback's 15th `on_step` overall — the 3rd step of the
following `learn(5, reset_num_timesteps=False)` — answers `False`. -/
example :
    (LS.runN (cbCfg exPPO (fun _ => 0)) (stopAt [15]) 100 (LS.setup 0 0 0 20 true)).pc = .done ∧
      projC (LS.runN (cbCfg exPPO (fun _ => 0)) (stopAt [15]) 100 (LS.setup 0 0 0 20 true)).trace =
        projE (run exPPO State.init (.learn 20 true :: quiet 12)).2 ∧
      (LS.runN (cbCfg exPPO (fun _ => 0)) (stopAt [15]) 100 (LS.setup 0 0 0 20 true)).num = 24 := by
  decide +kernel

example :
    projC (LS.runN (cbCfg exPPO (fun _ => 0)) (stopAt [15]) 100 (LS.setup 24 12 12 5 false)).trace =
      [.trainingStart 24, .rolloutStart, .step 26, .step 28, .step 30, .trainingEnd] ∧
    projE (run exPPO (run exPPO State.init (.learn 20 true :: quiet 12)).1
        [.learn 5 false, .env false 0 [], .env false 0 [], .env true 0 []]).2 =
      [.trainingStart 24, .rolloutStart, .step 26, .step 28, .step 30, .trainingEnd] := by
  decide +kernel

/-- TD3 with one episode per rollout, episodes ending at every even environment step; two calls, the second with reset -/
example :
    projC (LS.runN (cbCfg exTD3 (fun g => if g % 2 = 0 then 1 else 0)) (stopAt []) 100 (LS.setup 0 0 0 3 true)).trace =
      [.trainingStart 0, .rolloutStart, .step 1, .step 2, .rolloutEnd, .rolloutStart, .step 3, .step 4, .rolloutEnd,
        .trainingEnd] ∧
    projE (run exTD3 State.init
        (.learn 3 true :: opsOf (fun g => if g % 2 = 0 then 1 else 0) 0
          (LS.runN (cbCfg exTD3 (fun g => if g % 2 = 0 then 1 else 0)) (stopAt []) 100 (LS.setup 0 0 0 3 true)).trace)).2 =
      [.trainingStart 0, .rolloutStart, .step 1, .step 2, .rolloutEnd, .rolloutStart, .step 3, .step 4, .rolloutEnd,
        .trainingEnd] := by
  decide +kernel

/-- DQN, 4 envs, `train_freq = 2`: `learn(10)` ends at 16 in both machines -/
example :
    projC (LS.runN (cbCfg exDQN (fun _ => 4)) (stopAt []) 100 (LS.setup 0 0 0 10 true)).trace =
      projE (run exDQN State.init (.learn 10 true :: List.replicate 4 (.env false 4 []))).2 ∧
    (LS.runN (cbCfg exDQN (fun _ => 4)) (stopAt []) 100 (LS.setup 0 0 0 10 true)).num = 16 := by
  decide +kernel

example : 0 < rolloutParam exPPO ∧ 0 < rolloutParam exTD3 ∧ 0 < rolloutParam exDQN := by decide

end SB3Verif.C12C13
