/-
What `VecNormalize` needs beyond ordered-field algebra: the discounted return as a finite sum, and the two square
roots used — `Real.sqrt` (theorems instantiate here) and `ratSqrt` (the driver runs this).
-/
import SB3Verif.Lemmas.VecNormalize
import Mathlib.Algebra.BigOperators.Group.Finset.Basic
import Mathlib.Algebra.BigOperators.Ring.Finset
import Mathlib.Analysis.Real.Sqrt
import Mathlib.Data.Nat.Sqrt
import Mathlib.Algebra.Order.Field.Rat

namespace SB3Verif.VecNorm

noncomputable instance instHasSqrtReal : HasSqrt ℝ := ⟨Real.sqrt⟩

end SB3Verif.VecNorm

namespace SB3Verif.Lemmas.VecNorm

open SB3Verif.VecNorm

theorem foldl_discount {α : Type} [Field α] (γ R : α) (rs : List α) :
    rs.foldl (fun R r => R * γ + r) R =
      R * γ ^ rs.length + ∑ i ∈ Finset.range rs.length, γ ^ (rs.length - 1 - i) * rs.getD i 0 := by
  induction rs generalizing R with
  | nil => rw [List.foldl_nil, List.length_nil, pow_zero, mul_one, Finset.range_zero, Finset.sum_empty, add_zero]
  | cons r rs ih =>
    rw [List.foldl_cons, ih, List.length_cons, Finset.sum_range_succ', add_mul, mul_assoc, ← pow_succ', add_assoc,
      add_comm (r * _), mul_comm r]
    have : ∀ i, rs.length + 1 - 1 - (i + 1) = rs.length - 1 - i := fun i => by
      rw [Nat.add_sub_cancel, Nat.sub_add_eq, Nat.sub_right_comm]
    simp only [this]
    rfl

/-- `⌊√N⌋ / D` as an approximation of `√(N / D²)`: below by less than `1 / D`. -/
theorem natSqrt_div_bounds (N : ℕ) (D q : ℚ) (hD : 0 < D) (hN : (N : ℚ) = q * (D * D)) :
    (Nat.sqrt N / D) * (Nat.sqrt N / D) ≤ q ∧ q < (Nat.sqrt N / D + 1 / D) * (Nat.sqrt N / D + 1 / D) := by
  have hDD := mul_pos hD hD
  rw [← add_div, div_mul_div_comm, div_mul_div_comm, div_le_iff₀ hDD, lt_div_iff₀ hDD, ← hN]
  exact ⟨mod_cast Nat.sqrt_le N, mod_cast Nat.lt_succ_sqrt N⟩

theorem ratSqrt_eq (q : ℚ) (h : 0 < q) :
    ∃ N : ℕ, (N : ℚ) = q * ((q.den : ℚ) * 2 ^ 64 * ((q.den : ℚ) * 2 ^ 64)) ∧
      ratSqrt q = Nat.sqrt N / ((q.den : ℚ) * 2 ^ 64) := by
  have hnum : 0 < q.num := Rat.num_pos.mpr h
  refine ⟨q.num.toNat * q.den * (2 ^ 64 * 2 ^ 64), ?_, ?_⟩
  · have : ((q.num.toNat : ℕ) : ℚ) = q * q.den := by
      rw [Rat.mul_den_eq_num, ← Int.cast_natCast, Int.toNat_of_nonneg hnum.le]
    push_cast
    rw [this]; ring
  · unfold ratSqrt
    rw [if_neg (not_le.mpr hnum), Rat.mkRat_eq_div]
    push_cast
    rfl

theorem ratSqrt_pos (q : ℚ) (h : 0 < q) : 0 < ratSqrt q := by
  obtain ⟨N, hN, hr⟩ := ratSqrt_eq q h
  have hD : (0 : ℚ) < q.den * 2 ^ 64 := by positivity
  rw [hr]
  refine div_pos (Nat.cast_pos.mpr (Nat.sqrt_pos.mpr (Nat.cast_pos (α := ℚ).mp ?_))) hD
  rw [hN]; exact mul_pos h (mul_pos hD hD)

end SB3Verif.Lemmas.VecNorm
