/-
Helper lemmas for C20 about the logger model (`SB3Verif/Model/Logger.lean`).
The pending dictionaries are one association list (`find?`, `upsert`, `keysOf`). A `record` / `record_mean` acts on it
as `applyOp`: it changes nothing or upserts one entry (`applyOp_cases`), and every fact about a history (`snapshots`)
is an induction over that. A run of the whole system is its snapshots handed to each output format (`run_decompose`).
For the CSV format: printed integers consist of `numChars`, none of which means anything to the reader, so the cells of a
pending set with distinct clean keys are a dump the CSV lemmas accept (`kvsOk_csvRow`), and looking a column up in them
gives `csvCellOf` (`lookup_csvRow`).
-/
import SB3Verif.Lemmas.Csv
import SB3Verif.Model.Logger
import Mathlib.Algebra.Field.Basic
import Mathlib.Algebra.CharZero.Defs

namespace SB3Verif.Logger.Lemmas

open SB3Verif.Logger
open SB3Verif.Csv (Str Cell)

def keysOf {α} (p : Pending α) : List Str := p.map (·.key)

theorem find?_upsert_self {α} {k : Str} (e : Entry α) (p : Pending α) (h : e.key = k) :
    find? k (upsert e p) = some e := by
  subst h
  induction p with
  | nil => exact if_pos rfl
  | cons e' es ih =>
    dsimp only [upsert]
    split
    · exact if_pos rfl
    · rename_i h; rw [find?, if_neg h, ih]

theorem find?_upsert_ne {α} (e : Entry α) (p : Pending α) (k : Str) (h : e.key ≠ k) :
    find? k (upsert e p) = find? k p := by
  induction p with
  | nil => exact if_neg h
  | cons e' es ih =>
    dsimp only [upsert]
    split
    · rename_i h'
      rw [find?, find?, if_neg h, if_neg (h' ▸ h)]
    · rw [find?, find?, ih]

theorem find?_eq_none_iff {α} (k : Str) (p : Pending α) : find? k p = none ↔ k ∉ keysOf p := by
  induction p with
  | nil => exact ⟨fun _ => List.not_mem_nil, fun _ => rfl⟩
  | cons e es ih =>
    rw [find?, keysOf, List.map_cons, List.mem_cons, not_or]
    split
    · rename_i h; exact ⟨nofun, fun h' => absurd h.symm h'.1⟩
    · rename_i h; exact ih.trans ⟨fun h' => ⟨fun h'' => h h''.symm, h'⟩, fun h' => h'.2⟩

theorem isSome_find? {α} (k : Str) (p : Pending α) : (find? k p).isSome ↔ k ∈ keysOf p := by
  rw [← not_iff_not, ← find?_eq_none_iff, Option.not_isSome_iff_eq_none]

theorem find?_some_key {α} {k : Str} {p : Pending α} {e : Entry α} (h : find? k p = some e) : e.key = k ∧ e ∈ p := by
  induction p with
  | nil => cases h
  | cons e' es ih =>
    dsimp only [find?] at h
    split at h
    · rename_i hk; cases h; exact ⟨hk, List.mem_cons_self⟩
    · exact (ih h).imp_right (List.mem_cons_of_mem _)

theorem keysOf_cons {α} (e : Entry α) (p : Pending α) : keysOf (e :: p) = e.key :: keysOf p := rfl

theorem keysOf_upsert {α} (e : Entry α) (p : Pending α) :
    keysOf (upsert e p) = if e.key ∈ keysOf p then keysOf p else keysOf p ++ [e.key] := by
  induction p with
  | nil => rfl
  | cons e' es ih =>
    rw [upsert, keysOf_cons]
    split
    · rename_i h
      rw [keysOf_cons, if_pos (List.mem_cons.mpr (Or.inl h.symm)), h]
    · rename_i h
      rw [keysOf_cons, ih]
      by_cases hm : e.key ∈ keysOf es
      · rw [if_pos hm, if_pos (List.mem_cons_of_mem _ hm)]
      · rw [if_neg hm, if_neg fun h' => (List.mem_cons.mp h').elim (fun h'' => h h''.symm) hm]
        rfl

theorem nodup_keysOf_upsert {α} (e : Entry α) (p : Pending α) (h : (keysOf p).Nodup) : (keysOf (upsert e p)).Nodup := by
  rw [keysOf_upsert]
  split
  · exact h
  · rename_i hn
    exact List.nodup_append.mpr ⟨h, List.pairwise_singleton _ _, fun a ha b hb hab =>
      hn (List.mem_singleton.mp hb ▸ hab ▸ ha)⟩

theorem mem_keysOf_upsert {α} (e : Entry α) (p : Pending α) (k : Str) :
    k ∈ keysOf (upsert e p) ↔ k ∈ keysOf p ∨ k = e.key := by
  rw [keysOf_upsert]
  split
  · rename_i h
    exact ⟨Or.inl, fun h' => h'.elim id (· ▸ h)⟩
  · exact List.mem_append.trans (or_congr Iff.rfl List.mem_singleton)

theorem find?_record_self {α} (k : Str) (v : Val α) (ex : List Str) (p : Pending α) :
    find? k (record k v ex p) = some { key := k, val := v, count := ((find? k p).map (·.count)).getD 0, excl := ex } :=
  find?_upsert_self _ p rfl

theorem find?_record_ne {α} (k k' : Str) (v : Val α) (ex : List Str) (p : Pending α) (h : k ≠ k') :
    find? k' (record k v ex p) = find? k' p :=
  find?_upsert_ne _ p k' h

theorem keysOf_record {α} (k : Str) (v : Val α) (ex : List Str) (p : Pending α) :
    keysOf (record k v ex p) = if k ∈ keysOf p then keysOf p else keysOf p ++ [k] :=
  keysOf_upsert _ p

theorem Op.eq_dump_of_isDump {α : Type} {op : Op α} (h : op.isDump = true) : ∃ o, op = .dump o := by
  cases op <;> first | exact ⟨_, rfl⟩ | cases h

theorem Op.touches_eq {α : Type} (k : Str) (op : Op α) : op.touches k = (op.isRecordOf k || (op.meanVal k).isSome) := by
  cases op with
  | record k' v ex => exact (Bool.or_false _).symm
  | recordMean k' x ex =>
    cases x with
    | none => rfl
    | some x => simp only [Op.touches, Op.isRecordOf, Op.meanVal]; split <;> simp [*]
  | dump o => rfl

theorem Op.eq_of_meanVal {α : Type} {k : Str} {op : Op α} {x : α} (h : op.meanVal k = some x) :
    ∃ ex, op = .recordMean k (some x) ex := by
  cases op with
  | record k' v ex => cases h
  | recordMean k' x' ex =>
    cases x' with
    | none => cases h
    | some x' =>
      rw [Op.meanVal] at h
      split at h
      · rename_i hk; cases h; exact ⟨ex, hk ▸ rfl⟩
      · cases h
  | dump o => cases h

theorem meanVals_cons {α : Type} (k : Str) (op : Op α) (ops : List (Op α)) :
    meanVals k (op :: ops) = (op.meanVal k).toList ++ meanVals k ops := by
  rw [meanVals, List.filterMap_cons]
  cases op.meanVal k <;> rfl

section ops
variable {α : Type} [Add α] [Mul α] [Div α] [NatCast α] [IntCast α]

theorem recordMean_of_none {k : Str} {p : Pending α} (h : find? k p = none) (x : α) (ex : List Str) :
    recordMean k x ex p = some (upsert { key := k, val := .flt (meanStep ((0 : Nat) : α) 0 x), count := 1, excl := ex } p) := by
  rw [recordMean, h]

theorem recordMean_of_some {k : Str} {p : Pending α} {e : Entry α} {old : α} (h : find? k p = some e)
    (hv : e.val.toNum? = some old) (x : α) (ex : List Str) :
    recordMean k x ex p
      = some (upsert { key := k, val := .flt (meanStep old e.count x), count := e.count + 1, excl := ex } p) := by
  rw [recordMean, h]; dsimp only; rw [hv]

theorem recordMean_eq_upsert {k : Str} {x : α} {ex : List Str} {p p' : Pending α}
    (hr : recordMean k x ex p = some p') : ∃ e, e.key = k ∧ p' = upsert e p := by
  rw [recordMean] at hr
  split at hr
  · cases hr; exact ⟨_, rfl, rfl⟩
  · split at hr
    · cases hr
    · cases hr; exact ⟨_, rfl, rfl⟩

theorem find?_recordMean_ne (k k' : Str) (x : α) (ex : List Str) (p p' : Pending α) (h : k ≠ k')
    (hr : recordMean k x ex p = some p') : find? k' p' = find? k' p := by
  obtain ⟨e, rfl, rfl⟩ := recordMean_eq_upsert hr
  exact find?_upsert_ne e p k' h

theorem keysOf_recordMean (k : Str) (x : α) (ex : List Str) (p p' : Pending α)
    (hr : recordMean k x ex p = some p') :
    keysOf p' = if k ∈ keysOf p then keysOf p else keysOf p ++ [k] := by
  obtain ⟨e, rfl, rfl⟩ := recordMean_eq_upsert hr
  exact keysOf_upsert e p

/-- one operation on the pending set (`none`: `record_mean` on a string; a `dump` leaves it empty) -/
def applyOp (p : Pending α) : Op α → Option (Pending α)
  | .record k v ex => some (record k v ex p)
  | .recordMean _ none _ => some p
  | .recordMean k (some x) ex => recordMean k x ex p
  | .dump _ => some []

theorem applyOp_cases {p p' : Pending α} {op : Op α} (hd : op.isDump = false) (ha : applyOp p op = some p') :
    (p' = p ∧ ∀ k, op.touches k = false) ∨
      ∃ e, p' = upsert e p ∧ op.key? = some e.key ∧ ∀ k, op.touches k = decide (e.key = k) := by
  cases op with
  | record k v ex => cases ha; exact Or.inr ⟨_, rfl, rfl, fun _ => rfl⟩
  | recordMean k x ex =>
    cases x with
    | none => cases ha; exact Or.inl ⟨rfl, fun _ => rfl⟩
    | some x =>
      obtain ⟨e, rfl, rfl⟩ := recordMean_eq_upsert ha
      exact Or.inr ⟨e, rfl, rfl, fun _ => rfl⟩
  | dump o => cases hd

theorem find?_applyOp_of_not_touches {p p' : Pending α} {op : Op α} {k : Str}
    (hd : op.isDump = false) (ht : op.touches k = false) (ha : applyOp p op = some p') : find? k p' = find? k p := by
  rcases applyOp_cases hd ha with ⟨rfl, _⟩ | ⟨e, rfl, _, h⟩
  · rfl
  · exact find?_upsert_ne e p k (of_decide_eq_false ((h k).symm.trans ht))

theorem mem_keysOf_applyOp {p p' : Pending α} {op : Op α} (k : Str)
    (hd : op.isDump = false) (ha : applyOp p op = some p') :
    k ∈ keysOf p' ↔ k ∈ keysOf p ∨ op.touches k = true := by
  rcases applyOp_cases hd ha with ⟨rfl, h⟩ | ⟨e, rfl, _, h⟩
  · rw [h k]; exact (or_iff_left Bool.false_ne_true).symm
  · rw [mem_keysOf_upsert, h k, decide_eq_true_eq, eq_comm]

theorem snapshots_dump (p : Pending α) (order : List Str) (ops : List (Op α)) :
    snapshots p (.dump order :: ops) = (snapshots [] ops).map fun r => ((p, order) :: r.1, r.2) := by
  dsimp only [snapshots]
  cases snapshots [] ops <;> rfl

theorem snapshots_cons_nodump (p : Pending α) (op : Op α) (ops : List (Op α)) (h : op.isDump = false) :
    snapshots p (op :: ops) = (applyOp p op).bind (fun p' => snapshots p' ops) := by
  cases op with
  | record k v ex => rfl
  | recordMean k x ex =>
    cases x with
    | none => rfl
    | some x =>
      dsimp only [snapshots, applyOp]
      cases recordMean k x ex p <;> rfl
  | dump o => cases h

theorem snapshots_cons_eq_some {p p' : Pending α} {op : Op α} {ops : List (Op α)} {l : List (Pending α × List Str)}
    (hd : op.isDump = false) (h : snapshots p (op :: ops) = some (l, p')) :
    ∃ p1, applyOp p op = some p1 ∧ snapshots p1 ops = some (l, p') :=
  Option.bind_eq_some_iff.mp ((snapshots_cons_nodump p op ops hd).symm.trans h)

theorem find?_snapshots_of_not_touches {seg : List (Op α)} {p p' : Pending α} {l : List (Pending α × List Str)}
    {k : Str} (hall : ∀ op ∈ seg, op.isDump = false ∧ op.touches k = false) (h : snapshots p seg = some (l, p')) :
    find? k p' = find? k p := by
  induction seg generalizing p with
  | nil => cases h; rfl
  | cons op ops ih =>
    have ⟨hd, ht⟩ := hall op List.mem_cons_self
    obtain ⟨p1, ha, h1⟩ := snapshots_cons_eq_some hd h
    exact (ih (List.forall_mem_cons.mp hall).2 h1).trans (find?_applyOp_of_not_touches hd ht ha)

theorem snapshots_append (p : Pending α) (a b : List (Op α)) :
    snapshots p (a ++ b) = (snapshots p a).bind (fun r => (snapshots r.2 b).map (fun r' => (r.1 ++ r'.1, r'.2))) := by
  induction a generalizing p with
  | nil => exact Option.map_id'.symm
  | cons op ops ih =>
    cases hd : op.isDump with
    | false =>
      rw [List.cons_append, snapshots_cons_nodump _ _ _ hd, snapshots_cons_nodump _ _ _ hd]
      cases applyOp p op with
      | none => rfl
      | some p1 => exact ih p1
    | true =>
      obtain ⟨o, rfl⟩ := Op.eq_dump_of_isDump hd
      rw [List.cons_append, snapshots_dump, snapshots_dump, ih []]
      cases snapshots [] ops with
      | none => rfl
      | some r =>
        dsimp only [Option.bind_some, Option.map_some]
        cases snapshots r.2 b <;> rfl

theorem keysOf_snapshots {seg : List (Op α)} {p p' : Pending α} {l : List (Pending α × List Str)} (k : Str)
    (hall : ∀ op ∈ seg, op.isDump = false) (h : snapshots p seg = some (l, p')) :
    k ∈ keysOf p' ↔ k ∈ keysOf p ∨ ∃ op ∈ seg, op.touches k = true := by
  induction seg generalizing p with
  | nil => cases h; exact (or_iff_left (fun ⟨_, h, _⟩ => List.not_mem_nil h)).symm
  | cons op ops ih =>
    have hd := hall op List.mem_cons_self
    obtain ⟨p1, ha, h1⟩ := snapshots_cons_eq_some hd h
    rw [ih (List.forall_mem_cons.mp hall).2 h1, mem_keysOf_applyOp k hd ha, or_assoc]
    simp only [List.mem_cons, exists_eq_or_imp]

theorem snapshots_invariant (P : Pending α → Prop) (h0 : P []) {ops : List (Op α)}
    (hstep : ∀ op ∈ ops, op.isDump = false → ∀ p p', P p → applyOp p op = some p' → P p')
    {p p' : Pending α} {l : List (Pending α × List Str)} (hp : P p) (h : snapshots p ops = some (l, p')) :
    P p' ∧ ∀ sn ∈ l, P sn.1 := by
  induction ops generalizing p l with
  | nil => cases h; exact ⟨hp, nofun⟩
  | cons op ops ih =>
    have ih' := @ih (List.forall_mem_cons.mp hstep).2
    cases hd : op.isDump with
    | false =>
      obtain ⟨p1, ha, h1⟩ := snapshots_cons_eq_some hd h
      exact ih' (hstep op List.mem_cons_self hd p p1 hp ha) h1
    | true =>
      obtain ⟨o, rfl⟩ := Op.eq_dump_of_isDump hd
      rw [snapshots_dump] at h
      obtain ⟨r, hs, he⟩ := Option.map_eq_some_iff.mp h
      cases he
      have := ih' h0 hs
      exact ⟨this.1, List.forall_mem_cons.mpr ⟨hp, this.2⟩⟩

theorem nodup_snapshots {ops : List (Op α)} {p p' : Pending α} {l : List (Pending α × List Str)}
    (h : snapshots p ops = some (l, p')) (hn : (keysOf p).Nodup) :
    (keysOf p').Nodup ∧ ∀ sn ∈ l, (keysOf sn.1).Nodup := by
  refine snapshots_invariant (fun p => (keysOf p).Nodup) List.nodup_nil (fun op _ hd p p1 hp ha => ?_) hn h
  rcases applyOp_cases hd ha with ⟨rfl, _⟩ | ⟨e, rfl, _, _⟩
  · exact hp
  · exact nodup_keysOf_upsert e p hp

theorem keys_snapshots (P : Str → Prop) {ops : List (Op α)} {p p' : Pending α} {l : List (Pending α × List Str)}
    (h : snapshots p ops = some (l, p')) (hp : ∀ k ∈ keysOf p, P k) (hops : ∀ op ∈ ops, ∀ k, op.key? = some k → P k) :
    (∀ k ∈ keysOf p', P k) ∧ ∀ sn ∈ l, ∀ k ∈ keysOf sn.1, P k := by
  refine snapshots_invariant (fun p => ∀ k ∈ keysOf p, P k) nofun (fun op hop hd p p1 hp ha => ?_) hp h
  rcases applyOp_cases hd ha with ⟨rfl, _⟩ | ⟨e, rfl, hk, _⟩
  · exact hp
  · intro k hk'
    rcases (mem_keysOf_upsert e p k).mp hk' with h' | rfl
    · exact hp k h'
    · exact hops op hop _ hk

omit [Add α] [Mul α] [Div α] [NatCast α] [IntCast α] in
theorem dump_ok {R : Render α} {cfg : Config} {order : List Str} {s s1 : Sys α} (hs : s.dump R cfg order = .ok s1) :
    s1.pending = [] ∧ (cfg.csv = true → s.csv.write (csvRow R s.pending) order = some s1.csv) ∧
      (cfg.json = true → s1.json = s.json ++ jsonLine (jsonRow R s.pending)) ∧
      (cfg.human = true → ∃ t, humanWrite R cfg.maxLen s.pending = some t ∧ s1.human = s.human ++ t) := by
  rw [Sys.dump] at hs
  split at hs
  · cases hs
  · rename_i human hhu
    split at hs
    · cases hs
    · rename_i csv hcs
      cases hs
      refine ⟨rfl, fun hc => ?_, fun hj => if_pos hj, fun hh => ?_⟩
      · rwa [if_pos hc] at hcs
      · rw [if_pos hh] at hhu
        cases hw : humanWrite R cfg.maxLen s.pending with
        | none => rw [hw] at hhu; cases hhu
        | some t => rw [hw] at hhu; cases hhu; exact ⟨t, rfl, rfl⟩

/-- a run from `s` to `s'` over `ops`, told by the pending tables `snaps` its dumps saw -/
structure RunOutputs (R : Render α) (cfg : Config) (ops : List (Op α)) (s s' : Sys α)
    (snaps : List (Pending α × List Str)) : Prop where
  /-- `snaps` are what the dumps saw, `s'.pending` is what was recorded since the last one -/
  pending : snapshots s.pending ops = some (snaps, s'.pending)
  /-- the CSV file took one write per dump -/
  csv : cfg.csv = true → Csv.runWrites s.csv (snaps.map (fun sn => (csvRow R sn.1, sn.2))) = some s'.csv
  /-- the JSON file grew by one line per dump -/
  json : cfg.json = true → s'.json = s.json ++ (snaps.map (fun sn => jsonLine (jsonRow R sn.1))).flatten
  /-- the human output grew by one text per dump -/
  human : cfg.human = true → ∃ ts, List.Forall₂ (fun sn t => humanWrite R cfg.maxLen sn.1 = some t) snaps ts ∧
    s'.human = s.human ++ ts.flatten

theorem run_decompose {R : Render α} {cfg : Config} {ops : List (Op α)} {s s' : Sys α}
    (h : Sys.run R cfg s ops = .ok s') : ∃ snaps, RunOutputs R cfg ops s s' snaps := by
  induction ops generalizing s with
  | nil =>
    cases h
    exact ⟨[], rfl, fun _ => rfl, fun _ => (List.append_nil _).symm, fun _ => ⟨[], .nil, (List.append_nil _).symm⟩⟩
  | cons op ops ih =>
    cases op with
    -- an op that is not a dump writes nothing: the rest of the run has the same outputs
    | record k v ex => exact (ih h).imp fun _ rest => { rest with }
    | recordMean k x ex =>
      cases x with
      | none => exact (ih h).imp fun _ rest => { rest with }
      | some x =>
        dsimp only [Sys.run, Sys.step] at h
        cases hr : recordMean k x ex s.pending with
        | none => rw [hr] at h; cases h
        | some p1 =>
          rw [hr] at h
          exact (ih h).imp fun _ rest => { rest with pending := by dsimp only [snapshots]; rw [hr]; exact rest.pending }
    | dump order =>
      dsimp only [Sys.run] at h
      cases hs : Sys.step R cfg s (.dump order) with
      | error e => rw [hs] at h; cases h
      | ok s1 =>
        rw [hs] at h
        obtain ⟨snaps, rest⟩ := ih h
        obtain ⟨hp, hc, hj, hh⟩ := dump_ok hs
        have hsn := hp ▸ rest.pending
        refine ⟨(s.pending, order) :: snaps, by rw [snapshots_dump, hsn]; rfl, fun h => ?_, fun h => ?_, fun h => ?_⟩
        · rw [List.map_cons, Csv.runWrites, hc h]; exact rest.csv h
        · rw [rest.json h, hj h, List.map_cons, List.flatten_cons, List.append_assoc]
        · obtain ⟨ts, hts, hst⟩ := rest.human h
          obtain ⟨t, hw, ht⟩ := hh h
          exact ⟨t :: ts, .cons hw hts, by rw [hst, ht, List.flatten_cons, List.append_assoc]⟩

end ops

section mean
variable {α : Type} [Field α] [CharZero α]

omit [CharZero α] in
theorem meanStep_zero (x : α) : meanStep ((0 : ℕ) : α) 0 x = x := by
  simp [meanStep]

theorem meanStep_mean (S x : α) (n : ℕ) (hn : n ≠ 0) :
    meanStep (S / (n : α)) n x = (S + x) / ((n + 1 : ℕ) : α) := by
  dsimp only [meanStep]
  rw [div_mul_cancel₀ S (Nat.cast_ne_zero.mpr hn), add_div]

/-- what the pending entry of `k` looks like after the values `vs` were given to `record_mean(k, ·)` -/
def MeanState (k : Str) (vs : List α) (p : Pending α) : Prop :=
  match vs with
  | [] => find? k p = none
  | _ => ∃ e, find? k p = some e ∧ e.val = Val.flt (vs.sum / (vs.length : α)) ∧ e.count = vs.length

omit [CharZero α] in
theorem meanState_of_ne_nil {k : Str} {vs : List α} {p : Pending α} (hne : vs ≠ []) :
    MeanState k vs p ↔ ∃ e, find? k p = some e ∧ e.val = Val.flt (vs.sum / (vs.length : α)) ∧ e.count = vs.length := by
  cases vs with
  | nil => exact absurd rfl hne
  | cons _ _ => exact Iff.rfl

omit [CharZero α] in
theorem MeanState.congr {k : Str} {vs : List α} {p p' : Pending α} (h : find? k p' = find? k p) :
    MeanState k vs p' ↔ MeanState k vs p := by
  cases vs <;> simp only [MeanState, h]

theorem MeanState.recordMean {k : Str} {vs : List α} {p p' : Pending α} (x : α) (ex : List Str)
    (h : MeanState k vs p) (hr : recordMean k x ex p = some p') :
    MeanState k (vs ++ [x]) p' ∧ ∃ e, find? k p' = some e ∧ e.excl = ex := by
  cases vs with
  | nil =>
    rw [recordMean_of_none (show find? k p = none from h)] at hr
    cases hr
    refine ⟨⟨_, find?_upsert_self _ p rfl, congrArg Val.flt ?_, rfl⟩, _, find?_upsert_self _ p rfl, ?_⟩
    · rw [meanStep_zero, List.nil_append, List.sum_singleton, List.length_singleton, Nat.cast_one, div_one]
    · rfl
  | cons v vs' =>
    obtain ⟨e, he, hval, hcnt⟩ := h
    rw [recordMean_of_some he (by rw [hval]; rfl)] at hr
    cases hr
    refine ⟨⟨_, find?_upsert_self _ p rfl, congrArg Val.flt ?_, ?_⟩, _, find?_upsert_self _ p rfl, ?_⟩
    · rw [hcnt, meanStep_mean _ _ _ (List.length_cons ▸ Nat.succ_ne_zero _), List.sum_append, List.length_append,
        List.sum_singleton, List.length_singleton]
    · rw [hcnt, List.length_append]; rfl
    · rfl

theorem MeanState.applyOp {k : Str} {vs : List α} {p p1 : Pending α} {op : Op α} (hd : op.isDump = false)
    (hrk : op.isRecordOf k = false) (hm : MeanState k vs p) (ha : applyOp p op = some p1) :
    MeanState k (vs ++ (op.meanVal k).toList) p1 := by
  cases hv : op.meanVal k with
  | none =>
    have ht : op.touches k = false := by rw [Op.touches_eq, hrk, hv]; rfl
    rw [Option.toList_none, List.append_nil]
    exact (MeanState.congr (find?_applyOp_of_not_touches hd ht ha)).mpr hm
  | some x =>
    obtain ⟨ex, rfl⟩ := Op.eq_of_meanVal hv
    exact (hm.recordMean x ex ha).1

theorem meanState_snapshots {k : Str} {seg : List (Op α)} {p p' : Pending α} {l : List (Pending α × List Str)}
    {vs : List α} (hall : ∀ op ∈ seg, op.isDump = false ∧ op.isRecordOf k = false) (hm : MeanState k vs p)
    (h : snapshots p seg = some (l, p')) : MeanState k (vs ++ meanVals k seg) p' := by
  induction seg generalizing p vs with
  | nil => cases h; rwa [meanVals, List.filterMap_nil, List.append_nil]
  | cons op ops ih =>
    have ⟨hd, hrk⟩ := hall op List.mem_cons_self
    obtain ⟨p1, ha, h1⟩ := snapshots_cons_eq_some hd h
    rw [meanVals_cons, ← List.append_assoc]
    exact ih (List.forall_mem_cons.mp hall).2 (hm.applyOp hd hrk ha) h1

end mean

theorem digit_mem (d : Nat) : digit d ∈ digitChars := by
  have h : d % 10 < digitChars.length := Nat.mod_lt d (Nat.zero_lt_succ 9)
  rw [digit, List.getD_eq_getElem?_getD, List.getElem?_eq_getElem h]
  exact List.getElem_mem h

/-- the characters of printed numbers -/
def numChars : List Char := '-' :: '.' :: digitChars

theorem numChars_not_special : ∀ c ∈ numChars, Csv.special c = false := by decide +kernel

theorem tokClean_of_numChars {t : Str} (h : t ≠ [] ∧ ∀ c ∈ t, c ∈ numChars) : Csv.tokClean t = true :=
  Csv.Lemmas.tokClean_iff.mpr ⟨h.1, fun c hc => numChars_not_special c (h.2 c hc)⟩

theorem natDigitsAux_mem {f n : Nat} {acc : Str} {c : Char} (h : c ∈ natDigitsAux f n acc) :
    c ∈ digitChars ∨ c ∈ acc := by
  induction f generalizing n acc with
  | zero => exact Or.inr h
  | succ f ih =>
    have hcons : c ∈ digit n :: acc → c ∈ digitChars ∨ c ∈ acc := fun h =>
      (List.mem_cons.mp h).imp_left fun (h' : c = digit n) => h' ▸ digit_mem n
    dsimp only [natDigitsAux] at h
    split at h
    · exact hcons h
    · exact (ih h).elim Or.inl hcons

theorem natDigitsAux_ne_nil {f n : Nat} {acc : Str} (h : acc ≠ [] ∨ f ≠ 0) : natDigitsAux f n acc ≠ [] := by
  induction f generalizing n acc with
  | zero => exact h.elim id (absurd rfl)
  | succ f ih =>
    dsimp only [natDigitsAux]
    split
    · exact List.cons_ne_nil _ _
    · exact ih (Or.inl (List.cons_ne_nil _ _))

theorem natDigits_chars (n : Nat) : natDigits n ≠ [] ∧ ∀ c ∈ natDigits n, c ∈ digitChars :=
  ⟨natDigitsAux_ne_nil (Or.inr (Nat.succ_ne_zero n)), fun _ hc => (natDigitsAux_mem hc).elim id (absurd · List.not_mem_nil)⟩

theorem intRepr_chars (i : Int) : intRepr i ≠ [] ∧ ∀ c ∈ intRepr i, c ∈ numChars := by
  have hd : ∀ c ∈ natDigits i.natAbs, c ∈ numChars := fun c hc =>
    List.mem_cons_of_mem _ (List.mem_cons_of_mem _ ((natDigits_chars _).2 c hc))
  rw [intRepr]
  split
  · exact ⟨List.cons_ne_nil _ _, List.forall_mem_cons.mpr ⟨List.mem_cons_self, hd⟩⟩
  · exact ⟨(natDigits_chars _).1, hd⟩

theorem intRepr_clean (i : Int) : Csv.tokClean (intRepr i) = true :=
  tokClean_of_numChars (intRepr_chars i)

theorem csvRow_cons {α} (R : Render α) (e : Entry α) (es : Pending α) :
    csvRow R (e :: es) = if CSV ∈ e.excl then csvRow R es else (e.key, e.val.cell R) :: csvRow R es := by
  by_cases h : CSV ∈ e.excl <;> simp [csvRow, visible, h]

theorem mem_csvRow {α} {R : Render α} {p : Pending α} {kc : Str × Cell} (h : kc ∈ csvRow R p) :
    ∃ e ∈ p, kc = (e.key, e.val.cell R) := by
  simp only [csvRow, visible, List.map_map, List.mem_map, Function.comp] at h
  obtain ⟨e, he, rfl⟩ := h
  exact ⟨e, (List.mem_filter.mp he).1, rfl⟩

theorem fst_csvRow_sublist {α} (R : Render α) (p : Pending α) :
    List.Sublist ((csvRow R p).map Prod.fst) (keysOf p) := by
  rw [csvRow, visible, List.map_map, List.map_map]
  exact List.Sublist.map _ List.filter_sublist

theorem kvsOk_csvRow {α} (R : Render α) (hR : ∀ x, Csv.tokClean (R.csv x) = true) (p : Pending α)
    (hnd : (keysOf p).Nodup) (hcl : ∀ k ∈ keysOf p, Csv.tokClean k = true) : Csv.kvsOk (csvRow R p) = true := by
  have hs := fst_csvRow_sublist R p
  refine Csv.Lemmas.kvsOk_iff.mpr ⟨⟨fun k hk => hcl k (hs.subset hk), hnd.sublist hs⟩, fun kc hkc => ?_⟩
  obtain ⟨e, _, rfl⟩ := mem_csvRow hkc
  cases hv : e.val with
  | int i => exact intRepr_clean i
  | flt x => exact hR x
  | str s => rfl

theorem lookup_csvRow {α} (R : Render α) (p : Pending α) (hp : (keysOf p).Nodup) (k : Str) :
    Csv.lookup k (csvRow R p) = csvCellOf R p k := by
  induction p with
  | nil => rfl
  | cons e es ih =>
    rw [keysOf_cons, List.nodup_cons] at hp
    have ih' := ih hp.2
    rw [csvCellOf] at ih' ⊢
    rw [csvRow_cons, find?]
    by_cases hk : e.key = k
    · rw [if_pos hk]
      by_cases hex : CSV ∈ e.excl
      · simp only [List.contains_eq_mem, hex, decide_true, if_true]
        refine (Csv.Lemmas.lookup_eq_missing_or_mem k _).resolve_right fun hm => ?_
        obtain ⟨e', he', heq⟩ := mem_csvRow hm
        exact hp.1 (hk ▸ (Prod.mk.inj heq).1 ▸ List.mem_map_of_mem he')
      · simp [Csv.lookup, hk, hex]
    · rw [if_neg hk, ← ih']
      by_cases hex : CSV ∈ e.excl
      · rw [if_pos hex]
      · rw [if_neg hex, Csv.lookup, if_neg hk]

end SB3Verif.Logger.Lemmas
