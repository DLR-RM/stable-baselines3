/-
Lemmas for C12 (model: `SB3Verif/Model/Learn.lean`).

Two views of a reaction of `step`. Its events: every trace is accepted by the clock automaton `Accepts`, and the trace
predicates are properties of that automaton's language. Its state: `RolloutMid` / `RolloutEnd` give the state after an
environment step field by field (what the invariants `GenInv` and `FixInv` are proved from; every call and every
rollout begins in `loopHead`).
-/
import SB3Verif.Model.Learn
import Mathlib.Data.Rat.Init

namespace SB3Verif.LearnLemmas

open SB3Verif.Learn

@[simp] theorem run_nil (cfg : Cfg) (s : State) : run cfg s [] = (s, []) := rfl

theorem run_cons (cfg : Cfg) (s : State) (op : Op) (ops : List Op) :
    run cfg s (op :: ops) =
      ((run cfg (step cfg s op).1 ops).1, (step cfg s op).2 ++ (run cfg (step cfg s op).1 ops).2) := rfl

theorem run_append (cfg : Cfg) (s : State) (a b : List Op) :
    run cfg s (a ++ b) =
      ((run cfg (run cfg s a).1 b).1, (run cfg s a).2 ++ (run cfg (run cfg s a).1 b).2) := by
  induction a generalizing s with
  | nil => simp
  | cons op ops ih => simp [run_cons, ih, List.append_assoc]

theorem setupLearn_total (s : State) (T : ℕ) (r : Bool) : (setupLearn s T r).total = (if r then 0 else s.num) + T := by
  cases r
  · exact Nat.add_comm _ _
  · exact (Nat.zero_add _).symm

theorem step_learn (cfg : Cfg) (s : State) (T : ℕ) (r : Bool) (h : s.running = false) :
    step cfg s (.learn T r) =
      ((loopHead (setupLearn s T r)).1,
        .setup (setupLearn s T r).num (setupLearn s T r).total :: (loopHead (setupLearn s T r)).2) := by
  simp [step, applicable, h]

theorem step_learn_running (cfg : Cfg) (s : State) (T : ℕ) (r : Bool) (h : s.running = true) :
    step cfg s (.learn T r) = (s, []) := by
  simp [step, applicable, h]

theorem step_env (cfg : Cfg) (s : State) (a : Bool) (d : ℕ) (k : List Bool) (h : s.running = true) :
    step cfg s (.env a d k) = envStep cfg s a d k := by
  simp [step, applicable, h]

theorem step_env_idle (cfg : Cfg) (s : State) (a : Bool) (d : ℕ) (k : List Bool) (h : s.running = false) :
    step cfg s (.env a d k) = (s, []) := by
  simp [step, applicable, h]

theorem loopHead_cases (s : State) :
    (loopHead s = ({ s with running := true, colSteps := 0, colEps := 0 }, [.rolloutStart s.num s.progress]) ∧
        s.num < s.total) ∨
      (loopHead s = ({ s with running := false }, [.finish s.num false]) ∧ s.total ≤ s.num) := by
  unfold loopHead
  by_cases h : s.num < s.total
  · left; simp [h]
  · right; simp [h]; omega

theorem trainOn_eq (nEnvs : ℕ) (c : OnCfg) (s : State) (kl : List Bool) :
    trainOn nEnvs c s kl =
      ({ s with nUpdates := s.nUpdates + (onTrainCounts nEnvs c kl).2,
                optSteps := s.optSteps + (onTrainCounts nEnvs c kl).1 },
        [.train s.num (onTrainCounts nEnvs c kl).1 0 s.progress (s.nUpdates + (onTrainCounts nEnvs c kl).2)]) := rfl

theorem trainOff_cases (nEnvs : ℕ) (c : OffCfg) (s : State) :
    (trainOff nEnvs c s = (s, []) ∧ ¬ (0 < s.num ∧ c.learningStarts < s.num ∧ 0 < gradStepsOf nEnvs c s.colSteps)) ∨
      (trainOff nEnvs c s =
          ({ s with nUpdates := s.nUpdates + gradStepsOf nEnvs c s.colSteps,
                    optSteps := s.optSteps + gradStepsOf nEnvs c s.colSteps },
            [.train s.num (gradStepsOf nEnvs c s.colSteps)
              (actorSteps c.policyDelay s.nUpdates (gradStepsOf nEnvs c s.colSteps)) s.progress
              (s.nUpdates + gradStepsOf nEnvs c s.colSteps)]) ∧
        0 < s.num ∧ c.learningStarts < s.num ∧ 0 < gradStepsOf nEnvs c s.colSteps) := by
  unfold trainOff
  by_cases h1 : s.num > 0 ∧ s.num > c.learningStarts
  · by_cases h2 : gradStepsOf nEnvs c s.colSteps > 0
    · right; simp [h1, h2]
    · left; simp [h1, h2]
  · left; simp [h1]; omega

theorem envStep_stop (cfg : Cfg) (s : State) (d : ℕ) (k : List Bool) :
    envStep cfg s true d k =
      ({ s with num := s.num + cfg.nEnvs, running := false, stopped := true },
        [.step (s.num + cfg.nEnvs) s.progress, .finish (s.num + cfg.nEnvs) true]) := by
  simp [envStep]

theorem envStep_on_mid (cfg : Cfg) (c : OnCfg) (s : State) (d : ℕ) (k : List Bool) (hk : cfg.kind = .on c)
    (h : s.colSteps + 1 < c.nSteps) :
    envStep cfg s false d k =
      ({ s with num := s.num + cfg.nEnvs, colSteps := s.colSteps + 1 }, [.step (s.num + cfg.nEnvs) s.progress]) := by
  simp [envStep, hk, h]

/-- state just before `train()` at the end of an on-policy rollout -/
def onEndState (cfg : Cfg) (s : State) : State :=
  { s with num := s.num + cfg.nEnvs, colSteps := s.colSteps + 1, progress := progressOf (s.num + cfg.nEnvs) s.total }

theorem envStep_on_end (cfg : Cfg) (c : OnCfg) (s : State) (d : ℕ) (k : List Bool) (hk : cfg.kind = .on c)
    (h : ¬ s.colSteps + 1 < c.nSteps) :
    envStep cfg s false d k =
      ((loopHead (trainOn cfg.nEnvs c (onEndState cfg s) k).1).1,
        [.step (s.num + cfg.nEnvs) s.progress, .rolloutEnd (s.num + cfg.nEnvs) (s.colSteps + 1) s.progress,
          .progress (s.num + cfg.nEnvs) s.total (progressOf (s.num + cfg.nEnvs) s.total)] ++
          (trainOn cfg.nEnvs c (onEndState cfg s) k).2 ++ (loopHead (trainOn cfg.nEnvs c (onEndState cfg s) k).1).2) := by
  simp [envStep, hk, h, onEndState]

/-- state after an off-policy step (`_store_transition`, progress update, episode counters) -/
def offStepState (cfg : Cfg) (s : State) (d : ℕ) : State :=
  { s with num := s.num + cfg.nEnvs, colSteps := s.colSteps + 1, progress := progressOf (s.num + cfg.nEnvs) s.total,
           colEps := s.colEps + d, episodeNum := s.episodeNum + d }

theorem envStep_off_mid (cfg : Cfg) (c : OffCfg) (s : State) (d : ℕ) (k : List Bool) (hk : cfg.kind = .off c)
    (h : shouldCollectMore c (s.colSteps + 1) (s.colEps + d) = true) :
    envStep cfg s false d k =
      (offStepState cfg s d,
        [.step (s.num + cfg.nEnvs) s.progress,
          .progress (s.num + cfg.nEnvs) s.total (progressOf (s.num + cfg.nEnvs) s.total)]) := by
  simp [envStep, hk, h, offStepState]

theorem envStep_off_end (cfg : Cfg) (c : OffCfg) (s : State) (d : ℕ) (k : List Bool) (hk : cfg.kind = .off c)
    (h : shouldCollectMore c (s.colSteps + 1) (s.colEps + d) = false) :
    envStep cfg s false d k =
      ((loopHead (trainOff cfg.nEnvs c (offStepState cfg s d)).1).1,
        [.step (s.num + cfg.nEnvs) s.progress,
          .progress (s.num + cfg.nEnvs) s.total (progressOf (s.num + cfg.nEnvs) s.total),
          .rolloutEnd (s.num + cfg.nEnvs) (s.colSteps + 1) (progressOf (s.num + cfg.nEnvs) s.total)] ++
          (trainOff cfg.nEnvs c (offStepState cfg s d)).2 ++ (loopHead (trainOff cfg.nEnvs c (offStepState cfg s d)).1).2) := by
  simp [envStep, hk, h, offStepState]

/-! ### the clock automaton

Everything the trace predicates of `Model/Learn.lean` say is a property of the language of one small automaton over
the events: it keeps the clocks the events speak of, and accepts an event iff it carries exactly the values these
clocks dictate. Every trace of `run` is accepted (`run_accepts`; one case per reaction of `Learn.step`), and each trace
predicate holds of every accepted trace by an induction over the list of events in which the machine `Learn.step`
does not occur: five of them follow here, those of `antitoneOk` and of the unit interval are in
`Lemmas/LearnProgress.lean`. -/

/-- What a reader of the trace knows of the machine. `colSteps` counts the `step` events since the last
`rolloutStart`; `fresh`: a progress update was made in the current call (the library keeps no such flag; it is what
makes "`train()` uses a value of this call" an invariant). -/
structure Clk where
  num : ℕ
  total : ℕ
  colSteps : ℕ
  progress : ℚ
  fresh : Bool

def Clk.after (c : Clk) : Ev → Clk
  | .setup num total => { c with num := num, total := total, fresh := false }
  | .rolloutStart _ _ => { c with colSteps := 0 }
  | .step num _ => { c with num := num, colSteps := c.colSteps + 1 }
  | .progress _ _ p => { c with progress := p, fresh := true }
  | _ => c

/-- the event carries what the clocks dictate; `train()` only after a progress update of the same call, and
off-policy only after `learning_starts` -/
def Clk.ok (cfg : Cfg) (c : Clk) : Ev → Prop
  | .setup _ _ => True
  | .rolloutStart num seen => num = c.num ∧ seen = c.progress
  | .step num seen => num = c.num + cfg.nEnvs ∧ seen = c.progress
  | .progress num total p => num = c.num ∧ total = c.total ∧ p = progressOf c.num c.total
  | .rolloutEnd num steps seen => num = c.num ∧ steps = c.colSteps ∧ seen = c.progress
  | .train num _ _ p _ =>
    num = c.num ∧ p = c.progress ∧ c.fresh = true ∧ ∀ oc, cfg.kind = .off oc → oc.learningStarts < num ∧ 0 < num
  | .finish num _ => num = c.num

def Accepts (cfg : Cfg) : Clk → List Ev → Prop
  | _, [] => True
  | c, e :: es => c.ok cfg e ∧ Accepts cfg (c.after e) es

theorem accepts_append (cfg : Cfg) (c : Clk) (a b : List Ev) :
    Accepts cfg c (a ++ b) ↔ Accepts cfg c a ∧ Accepts cfg (a.foldl Clk.after c) b := by
  induction a generalizing c with
  | nil => exact ⟨fun h => ⟨trivial, h⟩, fun h => h.2⟩
  | cons e es ih => simp only [List.cons_append, Accepts, List.foldl_cons, ih, and_assoc]

/-- the automaton's clocks are the machine's (`colSteps` matters only inside a rollout) -/
structure Link (c : Clk) (s : State) : Prop where
  num : c.num = s.num
  total : c.total = s.total
  progress : c.progress = s.progress
  colSteps : s.running = true → c.colSteps = s.colSteps

/-- The clocks of `s`, for an observer who has seen no progress update yet (`fresh := false`). From these clocks
the automaton accepts a `train` only after a `progress` event of the trace itself, whatever `s` is in the middle of.
Hence `lrOk_of_accepts`, whose hypothesis on `last` speaks of a fresh clock only, gives `lrOk last` of `run` for every
`last` and every start state. -/
def Clk.of (s : State) : Clk := ⟨s.num, s.total, s.colSteps, s.progress, false⟩

theorem link_of (s : State) : Link (Clk.of s) s := ⟨rfl, rfl, rfl, fun _ => rfl⟩

/-- every call, and every further rollout of it, goes on with the `while` test -/
theorem accepts_loopHead {cfg : Cfg} {c : Clk} {pre : List Ev} {s : State} (h1 : Accepts cfg c pre)
    (hn : (pre.foldl Clk.after c).num = s.num) (ht : (pre.foldl Clk.after c).total = s.total)
    (hp : (pre.foldl Clk.after c).progress = s.progress) :
    Accepts cfg c (pre ++ (loopHead s).2) ∧ Link ((pre ++ (loopHead s).2).foldl Clk.after c) (loopHead s).1 := by
  rw [accepts_append, List.foldl_append]
  rcases loopHead_cases s with ⟨he, _⟩ | ⟨he, _⟩ <;> rw [he]
  · exact ⟨⟨h1, ⟨hn.symm, hp.symm⟩, trivial⟩, hn, ht, hp, fun _ => rfl⟩
  · exact ⟨⟨h1, hn.symm, trivial⟩, hn, ht, hp, nofun⟩

theorem step_accepts (cfg : Cfg) (s : State) (op : Op) (c : Clk) (h : Link c s) :
    Accepts cfg c (step cfg s op).2 ∧ Link ((step cfg s op).2.foldl Clk.after c) (step cfg s op).1 := by
  -- With the automaton's clocks literally those of `s`, every check of an event below is `rfl`. Each `exact` has one
  -- bracket per event of the reaction, in the order of the trace, and `trivial` for the empty rest; what follows is
  -- `Link` after the reaction: its four fields, or the `num`, `total`, `progress` that `accepts_loopHead` asks for.
  obtain ⟨n, t, k, p, f⟩ := c
  obtain ⟨hn, ht, hp, hk⟩ := h
  simp only at hn ht hp hk
  subst hn ht hp
  cases op with
  | learn T r =>
    cases hr : s.running
    · rw [step_learn _ _ _ _ hr]
      -- `pre` is named because the trace reads `setup _ _ :: _`, not `[setup _ _] ++ _`
      exact accepts_loopHead (pre := [.setup _ _]) ⟨trivial, trivial⟩ rfl rfl rfl
    · rw [step_learn_running _ _ _ _ hr]; exact ⟨trivial, rfl, rfl, rfl, hk⟩
  | env a d kl =>
    cases hr : s.running
    · rw [step_env_idle _ _ _ _ _ hr]; exact ⟨trivial, rfl, rfl, rfl, hk⟩
    · obtain rfl := hk hr
      rw [step_env _ _ _ _ _ hr]
      cases a with
      | true =>
        rw [envStep_stop]
        exact ⟨⟨⟨rfl, rfl⟩,  -- step
          rfl,  -- finish
          trivial⟩, rfl, rfl, rfl, nofun⟩
      | false =>
        cases hkd : cfg.kind with
        | on oc =>
          by_cases hm : s.colSteps + 1 < oc.nSteps
          · rw [envStep_on_mid cfg oc s d kl hkd hm]
            exact ⟨⟨⟨rfl, rfl⟩,  -- step
              trivial⟩, rfl, rfl, rfl, fun _ => rfl⟩
          · rw [envStep_on_end cfg oc s d kl hkd hm, trainOn_eq]
            exact accepts_loopHead
              ⟨⟨rfl, rfl⟩,  -- step
                ⟨rfl, rfl, rfl⟩,  -- rolloutEnd
                ⟨rfl, rfl, rfl⟩,  -- progress
                ⟨rfl, rfl, rfl, fun _ h => Kind.noConfusion (hkd.symm.trans h)⟩,  -- train (not off-policy)
                trivial⟩ rfl rfl rfl
        | off oc =>
          cases hm : shouldCollectMore oc (s.colSteps + 1) (s.colEps + d)
          · rw [envStep_off_end cfg oc s d kl hkd hm]
            rcases trainOff_cases cfg.nEnvs oc (offStepState cfg s d) with ⟨he, _⟩ | ⟨he, h1, h2, _⟩ <;> rw [he]
            · exact accepts_loopHead
                ⟨⟨rfl, rfl⟩,  -- step
                  ⟨rfl, rfl, rfl⟩,  -- progress
                  ⟨rfl, rfl, rfl⟩,  -- rolloutEnd
                  trivial⟩ rfl rfl rfl
            · exact accepts_loopHead
                ⟨⟨rfl, rfl⟩,  -- step
                  ⟨rfl, rfl, rfl⟩,  -- progress
                  ⟨rfl, rfl, rfl⟩,  -- rolloutEnd
                  ⟨rfl, rfl, rfl, fun _ h => Kind.off.inj (hkd.symm.trans h) ▸ ⟨h2, h1⟩⟩,  -- train (`h1`, `h2`)
                  trivial⟩ rfl rfl rfl
          · rw [envStep_off_mid cfg oc s d kl hkd hm]
            exact ⟨⟨⟨rfl, rfl⟩,  -- step
              ⟨rfl, rfl, rfl⟩,  -- progress
              trivial⟩, rfl, rfl, rfl, fun _ => rfl⟩

theorem run_accepts (cfg : Cfg) (s : State) (ops : List Op) (c : Clk) (h : Link c s) :
    Accepts cfg c (run cfg s ops).2 := by
  induction ops generalizing s c with
  | nil => trivial
  | cons op ops ih =>
    obtain ⟨h1, h2⟩ := step_accepts cfg s op c h
    rw [run_cons, accepts_append]
    exact ⟨h1, ih _ _ h2⟩

section
variable {cfg : Cfg} {c : Clk} {evs : List Ev}

theorem countsOk_of_accepts (h : Accepts cfg c evs) : countsOk cfg.nEnvs c.num evs := by
  induction evs generalizing c with
  | nil => trivial
  | cons e es ih =>
    obtain ⟨h1, h2⟩ := h
    cases e with
    | step n p => exact ⟨h1.1, ih h2⟩
    -- An event that `countsOk` does not test: its arm of `countsOk` and its arm of `Clk.after` move the counter alike
    -- (to the `num` of a `setup`, not at all otherwise), so the goal unfolds to `ih` at the clock `c.after e`. The
    -- inductions below close their remaining cases the same way, each for the clocks its predicate keeps.
    -- (`apply`: with `exact` the expected type fixes the clock of `ih` before `h2` is seen.)
    | _ => apply ih h2

theorem rolloutStepsOk_of_accepts (h : Accepts cfg c evs) : rolloutStepsOk c.colSteps evs := by
  induction evs generalizing c with
  | nil => trivial
  | cons e es ih =>
    obtain ⟨h1, h2⟩ := h
    cases e with
    | rolloutEnd n k p => exact ⟨h1.2.1, ih h2⟩
    | _ => apply ih h2

theorem progressOk_of_accepts (h : Accepts cfg c evs) : progressOk c.num c.total evs := by
  induction evs generalizing c with
  | nil => trivial
  | cons e es ih =>
    obtain ⟨h1, h2⟩ := h
    cases e with
    | progress n t p => exact ⟨h1.1, h1.2.1, h1.2.2, by apply ih h2⟩
    | _ => apply ih h2

theorem lrOk_of_accepts (h : Accepts cfg c evs) (last : Option ℚ) (hl : c.fresh = true → last = some c.progress) :
    lrOk last evs := by
  induction evs generalizing c last with
  | nil => trivial
  | cons e es ih =>
    obtain ⟨h1, h2⟩ := h
    cases e with
    | setup n t => exact ih h2 none nofun
    | progress n t p => exact ih h2 (some p) fun _ => rfl
    | train n o a p nu => exact ⟨(hl h1.2.2.1).trans (congrArg some h1.2.1.symm), ih h2 last hl⟩
    | _ => apply ih h2 last hl

theorem trains_of_accepts {oc : OffCfg} (hk : cfg.kind = .off oc) (h : Accepts cfg c evs) :
    ∀ x ∈ trains evs, oc.learningStarts < x.1 ∧ 0 < x.1 := by
  induction evs generalizing c with
  | nil => nofun
  | cons e es ih =>
    obtain ⟨h1, h2⟩ := h
    cases e with
    | train n o a p nu => exact List.forall_mem_cons.mpr ⟨h1.2.2.2 oc hk, ih h2⟩
    | _ => apply ih h2

end

theorem trains_append (a b : List Ev) : trains (a ++ b) = trains a ++ trains b := by
  induction a with
  | nil => simp [trains]
  | cons e es ih => cases e <;> simp [trains, ih]

theorem trains_loopHead (s : State) : trains (loopHead s).2 = [] := by
  rcases loopHead_cases s with ⟨h, _⟩ | ⟨h, _⟩ <;> rw [h] <;> simp [trains]

/-- "collect more?" after the step that is made from `s` -/
def moreAfter (cfg : Cfg) (s : State) (d : ℕ) : Bool :=
  match cfg.kind with
  | .on c => decide (s.colSteps + 1 < c.nSteps)
  | .off c => shouldCollectMore c (s.colSteps + 1) (s.colEps + d)

theorem moreAfter_on {cfg : Cfg} {c : OnCfg} (hk : cfg.kind = .on c) (s : State) (d : ℕ) :
    moreAfter cfg s d = decide (s.colSteps + 1 < c.nSteps) := by
  unfold moreAfter; rw [hk]

theorem moreAfter_off {cfg : Cfg} {c : OffCfg} (hk : cfg.kind = .off c) (s : State) (d : ℕ) :
    moreAfter cfg s d = shouldCollectMore c (s.colSteps + 1) (s.colEps + d) := by
  unfold moreAfter; rw [hk]

/-- gradient steps of the block after `collect_rollouts` in state `s` -/
def offTrainSteps (nEnvs : ℕ) (c : OffCfg) (s : State) : ℕ :=
  if c.learningStarts < s.num then gradStepsOf nEnvs c s.colSteps else 0

theorem trainOff_fst (nEnvs : ℕ) (c : OffCfg) (s : State) :
    (trainOff nEnvs c s).1 =
      { s with nUpdates := s.nUpdates + offTrainSteps nEnvs c s, optSteps := s.optSteps + offTrainSteps nEnvs c s } := by
  rcases trainOff_cases nEnvs c s with ⟨he, hno⟩ | ⟨he, _, h2, _⟩ <;> rw [he]
  · have : offTrainSteps nEnvs c s = 0 := by
      unfold offTrainSteps
      split
      · omega
      · rfl
    rw [this]; rfl
  · rw [offTrainSteps, if_pos h2]

/-- `(optimizer steps, _n_updates increment)` of the `train()` that follows a rollout, `s` being the state in which
`train()` is called -/
def trainCounts (cfg : Cfg) (s : State) (k : List Bool) : ℕ × ℕ :=
  match cfg.kind with
  | .on c => onTrainCounts cfg.nEnvs c k
  | .off c => (offTrainSteps cfg.nEnvs c s, offTrainSteps cfg.nEnvs c s)

theorem trainCounts_on {cfg : Cfg} {c : OnCfg} (hk : cfg.kind = .on c) (s : State) (k : List Bool) :
    trainCounts cfg s k = onTrainCounts cfg.nEnvs c k := by
  unfold trainCounts; rw [hk]

theorem trainCounts_off {cfg : Cfg} {c : OffCfg} (hk : cfg.kind = .off c) (s : State) (k : List Bool) :
    trainCounts cfg s k = (offTrainSteps cfg.nEnvs c s, offTrainSteps cfg.nEnvs c s) := by
  unfold trainCounts; rw [hk]

/-- The state `s3` in which the `while` test is made after the step from `s` has completed a rollout. -/
structure RolloutEnd (cfg : Cfg) (s : State) (k : List Bool) (s3 : State) : Prop where
  num : s3.num = s.num + cfg.nEnvs
  total : s3.total = s.total
  start : s3.start = s.start
  colSteps : s3.colSteps = s.colSteps + 1
  done : rolloutDone cfg s3
  progress : s3.progress = progressOf s3.num s3.total
  optSteps : s3.optSteps = s.optSteps + (trainCounts cfg s3 k).1
  nUpdates : s3.nUpdates = s.nUpdates + (trainCounts cfg s3 k).2

theorem step_env_end (cfg : Cfg) (s : State) (d : ℕ) (k : List Bool) (hr : s.running = true)
    (hm : moreAfter cfg s d = false) :
    ∃ s3, RolloutEnd cfg s k s3 ∧ (step cfg s (.env false d k)).1 = (loopHead s3).1 := by
  rw [step_env _ _ _ _ _ hr]
  cases hk : cfg.kind with
  | on c =>
    have hm' : ¬ s.colSteps + 1 < c.nSteps := of_decide_eq_false ((moreAfter_on hk s d).symm.trans hm)
    refine ⟨(trainOn cfg.nEnvs c (onEndState cfg s) k).1, ?_, by rw [envStep_on_end cfg c s d k hk hm']⟩
    exact ⟨rfl, rfl, rfl, rfl, by unfold rolloutDone; rw [hk]; exact Nat.le_of_not_lt hm', rfl,
      by rw [trainCounts_on hk]; rfl, by rw [trainCounts_on hk]; rfl⟩
  | off c =>
    rw [moreAfter_off hk] at hm
    refine ⟨(trainOff cfg.nEnvs c (offStepState cfg s d)).1, ?_, by rw [envStep_off_end cfg c s d k hk hm]⟩
    rw [trainOff_fst]
    exact ⟨rfl, rfl, rfl, rfl, by unfold rolloutDone; rw [hk]; exact hm, rfl, by rw [trainCounts_off hk]; rfl,
      by rw [trainCounts_off hk]; rfl⟩

/-- The state `s'` after a step from `s` that leaves the rollout unfinished. -/
structure RolloutMid (cfg : Cfg) (s : State) (d : ℕ) (s' : State) : Prop where
  num : s'.num = s.num + cfg.nEnvs
  total : s'.total = s.total
  start : s'.start = s.start
  running : s'.running = true
  colSteps : s'.colSteps = s.colSteps + 1
  colEps : ∀ c, cfg.kind = .off c → s'.colEps = s.colEps + d
  optSteps : s'.optSteps = s.optSteps
  nUpdates : s'.nUpdates = s.nUpdates

theorem step_env_mid (cfg : Cfg) (s : State) (d : ℕ) (k : List Bool) (hr : s.running = true)
    (hm : moreAfter cfg s d = true) : RolloutMid cfg s d (step cfg s (.env false d k)).1 := by
  rw [step_env _ _ _ _ _ hr]
  cases hk : cfg.kind with
  | on c =>
    rw [envStep_on_mid cfg c s d k hk (of_decide_eq_true ((moreAfter_on hk s d).symm.trans hm))]
    exact ⟨rfl, rfl, rfl, hr, rfl, fun _ h => (Kind.noConfusion (hk.symm.trans h)), rfl, rfl⟩
  | off c =>
    rw [envStep_off_mid cfg c s d k hk ((moreAfter_off hk s d).symm.trans hm)]
    exact ⟨rfl, rfl, rfl, hr, rfl, fun _ _ => rfl, rfl, rfl⟩

theorem loopHead_frame (s : State) :
    (loopHead s).1.num = s.num ∧ (loopHead s).1.total = s.total ∧ (loopHead s).1.start = s.start := by
  rcases loopHead_cases s with ⟨h, _⟩ | ⟨h, _⟩ <;> rw [h] <;> exact ⟨rfl, rfl, rfl⟩

/-- Rollouts of any length: the one in progress began before the target, at or after the start of the call; a call
that was not stopped ends at or after the target, after a complete rollout if it made a step at all. -/
structure GenInv (cfg : Cfg) (s : State) : Prop where
  run : s.running = true →
    s.start + cfg.nEnvs * s.colSteps ≤ s.num ∧ s.num - cfg.nEnvs * s.colSteps < s.total
  fin : s.running = false → s.stopped = false →
    s.total ≤ s.num ∧
      (s.num = s.start ∨
        (s.start + cfg.nEnvs * s.colSteps ≤ s.num ∧ s.num - cfg.nEnvs * s.colSteps < s.total ∧ rolloutDone cfg s ∧
          s.progress = progressOf s.num s.total))

theorem genInv_init (cfg : Cfg) : GenInv cfg State.init :=
  ⟨(nomatch ·), fun _ _ => ⟨Nat.le_refl _, Or.inl rfl⟩⟩

/-- every call, and every further rollout of it, begins at the `while` test -/
theorem genInv_loopHead (cfg : Cfg) (s : State)
    (h : s.num = s.start ∨
      (s.start + cfg.nEnvs * s.colSteps ≤ s.num ∧ s.num - cfg.nEnvs * s.colSteps < s.total ∧ rolloutDone cfg s ∧
        s.progress = progressOf s.num s.total)) : GenInv cfg (loopHead s).1 := by
  rcases loopHead_cases s with ⟨he, hlt⟩ | ⟨he, hge⟩ <;> rw [he]
  · refine ⟨fun _ => ?_, (nomatch ·)⟩
    show s.start ≤ s.num ∧ s.num < s.total
    exact ⟨h.elim (fun e => e ▸ Nat.le_refl _) fun h' => Nat.le_of_add_right_le h'.1, hlt⟩
  · exact ⟨(nomatch ·), fun _ _ => ⟨hge, h⟩⟩

theorem genInv_step (cfg : Cfg) (s : State) (op : Op) (h : GenInv cfg s) : GenInv cfg (step cfg s op).1 := by
  cases op with
  | learn T r =>
    cases hr : s.running
    · rw [step_learn _ _ _ _ hr]; exact genInv_loopHead cfg _ (Or.inl rfl)
    · rw [step_learn_running _ _ _ _ hr]; exact h
  | env a d k =>
    cases hr : s.running
    · rw [step_env_idle _ _ _ _ _ hr]; exact h
    · -- one more step of `n_envs`: the rollout still began before the target, at or after the start of the call
      have hb : s.start + cfg.nEnvs * (s.colSteps + 1) ≤ s.num + cfg.nEnvs ∧
          s.num + cfg.nEnvs - cfg.nEnvs * (s.colSteps + 1) < s.total := by
        rw [Nat.mul_add_one, ← Nat.add_assoc, Nat.add_sub_add_right]
        exact ⟨Nat.add_le_add_right (h.run hr).1 _, (h.run hr).2⟩
      cases a with
      | true => rw [step_env _ _ _ _ _ hr, envStep_stop]; exact ⟨(nomatch ·), fun _ => (nomatch ·)⟩
      | false =>
        cases hm : moreAfter cfg s d with
        | true =>
          have e := step_env_mid cfg s d k hr hm
          refine ⟨fun _ => ?_, fun h' => ?_⟩
          · rw [e.num, e.total, e.start, e.colSteps]; exact hb
          · rw [e.running] at h'; cases h'
        | false =>
          obtain ⟨s3, e, he⟩ := step_env_end cfg s d k hr hm
          rw [he]
          refine genInv_loopHead cfg s3 (Or.inr ⟨?_, ?_, e.done, e.progress⟩)
          · rw [e.num, e.start, e.colSteps]; exact hb.1
          · rw [e.num, e.total, e.colSteps]; exact hb.2

theorem genInv_run (cfg : Cfg) (s : State) (ops : List Op) (h : GenInv cfg s) : GenInv cfg (run cfg s ops).1 := by
  induction ops generalizing s with
  | nil => exact h
  | cons op ops ih => rw [run_cons]; exact ih _ (genInv_step cfg s op h)

theorem ceil_unique (R T i : ℕ) (hR : 0 < R) (h1 : T ≤ R * i) (h2 : i = 0 ∨ R * (i - 1) < T) : i = ceilDiv T R := by
  unfold ceilDiv
  refine (Nat.div_eq_of_lt_le ?_ ?_).symm
  · cases i with
    | zero => rw [Nat.zero_mul]; exact Nat.zero_le _
    | succ j =>
      have h3 : R * j < T := h2.resolve_left (Nat.succ_ne_zero j)
      rw [Nat.succ_mul, Nat.mul_comm]; omega
  · rw [Nat.succ_mul, Nat.mul_comm]; omega

/-- Rollouts of `L` steps each (`n_steps`, or `train_freq` counted in steps), in a call `learn(T)` that began at counter
`start`: the counter is at step `colSteps` of rollout `i`, which began before the target; a call that was not
stopped ends after `⌈T / (n_envs·L)⌉` rollouts. `P i o u`: what is known of the optimizer-step and update counters
`o`, `u` after `i` complete rollouts. -/
structure FixInv (cfg : Cfg) (L T start : ℕ) (P : ℕ → ℕ → ℕ → Prop) (s : State) : Prop where
  total_eq : s.total = start + T
  start_eq : s.start = start
  run : s.running = true → ∃ i, s.num = start + cfg.nEnvs * L * i + cfg.nEnvs * s.colSteps ∧
      cfg.nEnvs * L * i < T ∧ s.colSteps < L ∧ P i s.optSteps s.nUpdates
  fin : s.running = false → s.stopped = false →
    s.num = start + cfg.nEnvs * L * ceilDiv T (cfg.nEnvs * L) ∧ P (ceilDiv T (cfg.nEnvs * L)) s.optSteps s.nUpdates

/-- what the `train()` after rollout `i + 1` (KL flags `k`, called in a state `s3`) does to what is known of the counters -/
def TrainStep (cfg : Cfg) (L start : ℕ) (P : ℕ → ℕ → ℕ → Prop) (k : List Bool) : Prop :=
  ∀ i o u (s3 : State), s3.num = start + cfg.nEnvs * L * (i + 1) → s3.colSteps = L → P i o u →
    P (i + 1) (o + (trainCounts cfg s3 k).1) (u + (trainCounts cfg s3 k).2)

section FixInv
variable {cfg : Cfg} {L T start : ℕ} {P : ℕ → ℕ → ℕ → Prop}

/-- the `while` test after `i` complete rollouts, the last of which began before the target -/
theorem fixInv_loopHead (hR : 0 < cfg.nEnvs * L) (s : State) (i : ℕ) (ht : s.total = start + T) (hs : s.start = start)
    (hn : s.num = start + cfg.nEnvs * L * i) (hi : i = 0 ∨ cfg.nEnvs * L * (i - 1) < T)
    (hP : P i s.optSteps s.nUpdates) : FixInv cfg L T start P (loopHead s).1 := by
  rcases loopHead_cases s with ⟨he, hlt⟩ | ⟨he, hge⟩ <;> rw [he]
  · rw [hn, ht] at hlt
    exact ⟨ht, hs, fun _ => ⟨i, hn, Nat.lt_of_add_lt_add_left hlt, Nat.pos_of_mul_pos_left hR, hP⟩, (nomatch ·)⟩
  · rw [hn, ht] at hge
    have : i = ceilDiv T (cfg.nEnvs * L) := ceil_unique _ T i hR (Nat.le_of_add_le_add_left hge) hi
    exact ⟨ht, hs, (nomatch ·), fun _ _ => ⟨this ▸ hn, this ▸ hP⟩⟩

/-- `hfix`: the rollouts have `L` steps -/
theorem fixInv_env (hR : 0 < cfg.nEnvs * L) (hfix : ∀ s d, moreAfter cfg s d = decide (s.colSteps + 1 < L))
    (s : State) (a : Bool) (d : ℕ) (k : List Bool)
    (hP : TrainStep cfg L start P k) (h : FixInv cfg L T start P s) : FixInv cfg L T start P (step cfg s (.env a d k)).1 := by
  cases hr : s.running
  · rw [step_env_idle _ _ _ _ _ hr]; exact h
  · obtain ⟨i, hn, hlt, hcol, hPi⟩ := h.run hr
    have hnum : s.num + cfg.nEnvs = start + cfg.nEnvs * L * i + cfg.nEnvs * (s.colSteps + 1) := by
      rw [hn, Nat.add_assoc, ← Nat.mul_add_one]
    cases a with
    | true =>
      rw [step_env _ _ _ _ _ hr, envStep_stop]
      exact ⟨h.total_eq, h.start_eq, (nomatch ·), fun _ => (nomatch ·)⟩
    | false =>
      by_cases hm : s.colSteps + 1 < L
      · have e := step_env_mid cfg s d k hr (by rw [hfix]; exact decide_eq_true hm)
        refine ⟨e.total.trans h.total_eq, e.start.trans h.start_eq, fun _ => ⟨i, ?_, hlt, ?_, ?_⟩, fun h' => ?_⟩
        · rw [e.num, e.colSteps]; exact hnum
        · rw [e.colSteps]; exact hm
        · rw [e.optSteps, e.nUpdates]; exact hPi
        · rw [e.running] at h'; cases h'
      · obtain ⟨s3, e, he⟩ := step_env_end cfg s d k hr (by rw [hfix]; exact decide_eq_false hm)
        have hcs : s.colSteps + 1 = L := Nat.le_antisymm hcol (Nat.le_of_not_lt hm)
        have hnum3 : s3.num = start + cfg.nEnvs * L * (i + 1) := by
          rw [e.num, hnum, hcs, Nat.add_assoc, ← Nat.mul_add_one]
        rw [he]
        refine fixInv_loopHead hR s3 (i + 1) (e.total.trans h.total_eq) (e.start.trans h.start_eq) hnum3 (Or.inr hlt) ?_
        rw [e.optSteps, e.nUpdates]
        exact hP i _ _ s3 hnum3 (e.colSteps.trans hcs) hPi

theorem fixInv_run (hR : 0 < cfg.nEnvs * L) (hfix : ∀ s d, moreAfter cfg s d = decide (s.colSteps + 1 < L))
    (s : State) (h : FixInv cfg L T start P s) (ins : List Op)
    (hins : ∀ op ∈ ins, ∃ a d k, op = .env a d k ∧ TrainStep cfg L start P k) :
    FixInv cfg L T start P (run cfg s ins).1 := by
  induction ins generalizing s with
  | nil => exact h
  | cons op ops ih =>
    obtain ⟨a, d, k, rfl, hP⟩ := hins _ List.mem_cons_self
    rw [run_cons]
    exact ih _ (fixInv_env hR hfix s a d k hP h) (fun op hop => hins op (List.mem_cons_of_mem _ hop))

end FixInv

theorem fixInv_call {cfg : Cfg} {L : ℕ} {P : ℕ → ℕ → ℕ → Prop} (hR : 0 < cfg.nEnvs * L)
    (hfix : ∀ s d, moreAfter cfg s d = decide (s.colSteps + 1 < L)) (s0 : State) (h0 : s0.running = false) (T : ℕ)
    (r : Bool) (hP0 : P 0 s0.optSteps s0.nUpdates) (ins : List Op)
    (hins : ∀ op ∈ ins, ∃ a d k, op = .env a d k ∧ TrainStep cfg L (if r then 0 else s0.num) P k) :
    FixInv cfg L T (if r then 0 else s0.num) P (run cfg s0 (.learn T r :: ins)).1 := by
  rw [run_cons, step_learn _ _ _ _ h0]
  exact fixInv_run hR hfix _ (fixInv_loopHead hR _ 0 (setupLearn_total s0 T r) rfl rfl (Or.inl rfl) hP0) ins hins

/-- rollouts of the call that end at or before `learning_starts`: `⌊(learning_starts - start) / R⌋` -/
def warmupRollouts (cfg : Cfg) (c : OffCfg) (start : ℕ) : ℕ := (c.learningStarts - start) / (cfg.nEnvs * c.freq)

/-- number of the first `i` rollouts that are followed by a `train()` -/
def trained (cfg : Cfg) (c : OffCfg) (start i : ℕ) : ℕ := i - min i (warmupRollouts cfg c start)

theorem trained_eq (cfg : Cfg) (c : OffCfg) (start i : ℕ) : trained cfg c start i = i - warmupRollouts cfg c start := by
  unfold trained
  rcases Nat.le_total i (warmupRollouts cfg c start) with h | h
  · rw [Nat.min_eq_left h, Nat.sub_self, Nat.sub_eq_zero_of_le h]
  · rw [Nat.min_eq_right h]

/-- rollout `i + 1` is followed by `train()` iff it ends after `learning_starts` -/
theorem trained_succ (cfg : Cfg) (c : OffCfg) (hR : 0 < cfg.nEnvs * c.freq) (start i : ℕ) (s3 : State)
    (hn : s3.num = start + cfg.nEnvs * c.freq * (i + 1)) (hc : s3.colSteps = c.freq) :
    gradStepsOf cfg.nEnvs c c.freq * trained cfg c start (i + 1) =
      gradStepsOf cfg.nEnvs c c.freq * trained cfg c start i + offTrainSteps cfg.nEnvs c s3 := by
  have hq : warmupRollouts cfg c start < i + 1 ↔ c.learningStarts < s3.num := by
    have := Nat.mul_pos hR (Nat.add_one_pos i)
    rw [warmupRollouts, Nat.div_lt_iff_lt_mul hR, Nat.mul_comm (i + 1), hn]
    omega
  rw [offTrainSteps, hc, trained_eq, trained_eq]
  split
  · rw [Nat.succ_sub (Nat.le_of_lt_succ (hq.mpr ‹_›)), Nat.mul_succ]
  · rw [Nat.sub_eq_zero_of_le (Nat.le_of_not_lt (mt hq.mp ‹_›)),
      Nat.sub_eq_zero_of_le (Nat.le_of_succ_le (Nat.le_of_not_lt (mt hq.mp ‹_›)))]
    rfl

/-- the invariant of an off-policy call with `train_freq` in steps; every rollout that ends after `learning_starts`
is followed by `gradStepsOf … freq` gradient steps -/
theorem fixInv_call_off (cfg : Cfg) (c : OffCfg) (hk : cfg.kind = .off c) (hu : c.unit = .step) (hn : 0 < cfg.nEnvs)
    (hL : 0 < c.freq) (s0 : State) (h0 : s0.running = false) (T : ℕ) (r : Bool) (ins : List Op)
    (hins : ∀ op ∈ ins, ∃ a d k, op = .env a d k) :
    FixInv cfg c.freq T (if r then 0 else s0.num)
      (fun i o u =>
        o = s0.optSteps + gradStepsOf cfg.nEnvs c c.freq * trained cfg c (if r then 0 else s0.num) i ∧
          u = s0.nUpdates + gradStepsOf cfg.nEnvs c c.freq * trained cfg c (if r then 0 else s0.num) i)
      (run cfg s0 (.learn T r :: ins)).1 := by
  refine fixInv_call (Nat.mul_pos hn hL) (fun s d => by rw [moreAfter_off hk]; simp only [shouldCollectMore, hu]) s0 h0 T r
    ⟨rfl, rfl⟩ ins fun op hop => ?_
  obtain ⟨a, d, k, rfl⟩ := hins op hop
  refine ⟨a, d, k, rfl, fun i o u s3 h3 hc h => ?_⟩
  show _ = _ ∧ _ = _
  rw [trainCounts_off hk, trained_succ cfg c (Nat.mul_pos hn hL) _ i s3 h3 hc, ← Nat.add_assoc, ← Nat.add_assoc, ← h.1,
    ← h.2]
  exact ⟨rfl, rfl⟩

/-- the first `true` among the first `n` flags, in terms of the whole list -/
theorem firstTrue_take (l : List Bool) (n : ℕ) :
    (∀ j, firstTrue (l.take n) = some j → j < n ∧ l.getD j false = true ∧ ∀ i, i < j → l.getD i false = false) ∧
      (firstTrue (l.take n) = none → ∀ i, i < n → l.getD i false = false) := by
  induction l generalizing n with
  | nil => exact ⟨fun j h => (by rw [List.take_nil] at h; cases h), fun _ _ _ => rfl⟩
  | cons b t ih =>
    cases n with
    | zero => exact ⟨fun j h => (nomatch h), fun _ i hi => absurd hi (Nat.not_lt_zero i)⟩
    | succ n =>
      cases b with
      | true =>
        exact ⟨fun j h => (by cases h; exact ⟨Nat.succ_pos n, rfl, fun i hi => absurd hi (Nat.not_lt_zero i)⟩),
          fun h => nomatch h⟩
      | false =>
        obtain ⟨ih1, ih2⟩ := ih n
        refine ⟨fun j h => ?_, fun h i hi => ?_⟩
        · obtain ⟨j', hf, rfl⟩ := Option.map_eq_some_iff.mp h
          obtain ⟨h1, h2, h3⟩ := ih1 j' hf
          refine ⟨Nat.succ_lt_succ h1, h2, fun i hi => ?_⟩
          cases i with
          | zero => rfl
          | succ i => exact h3 i (Nat.lt_of_succ_lt_succ hi)
        · cases i with
          | zero => rfl
          | succ i => exact ih2 (Option.map_eq_none_iff.mp h) i (Nat.lt_of_succ_lt_succ hi)

end SB3Verif.LearnLemmas
