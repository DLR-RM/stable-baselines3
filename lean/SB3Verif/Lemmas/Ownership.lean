/-
Helper lemmas for C19 (`Props/C19.lean`): the heap machine refines the value machine on
copy-discipline programs; value-level facts about caller writes; the mode table.
-/
import SB3Verif.Model.ApiModes

namespace SB3Verif.Ownership.Lemmas

open SB3Verif.Ownership

theorem upd_same {h : Addr → Val} {a : Addr} {v : Val} : upd h a v a = v := if_pos rfl

theorem upd_ne {h : Addr → Val} {a x : Addr} {v : Val} (hx : x ≠ a) : upd h a v x = h x := if_neg hx

theorem map_upd_not_mem {h : Addr → Val} {a : Addr} {v : Val} {l : List Addr} (hn : a ∉ l) :
    l.map (upd h a v) = l.map h :=
  List.map_congr_left fun _ hx => upd_ne fun e => hn (e ▸ hx)

theorem map_upd_nodup {h : Addr → Val} {a : Addr} {v : Val} {l : List Addr} {k : Nat} (hnd : l.Nodup)
    (hk : l[k]? = some a) : l.map (upd h a v) = (l.map h).set k v := by
  induction l generalizing k with
  | nil => cases hk
  | cons x xs ih =>
    obtain ⟨hx, hnd⟩ := List.nodup_cons.mp hnd
    cases k with
    | zero =>
      cases Option.some.inj hk
      rw [List.map_cons, upd_same, map_upd_not_mem hx]
      rfl
    | succ k =>
      have hne : x ≠ a := fun e => hx (e ▸ List.mem_of_getElem? hk)
      rw [List.map_cons, upd_ne hne, ih hnd hk]
      rfl

theorem evalSrc_eq (heap : Addr → Val) (slots args : List Addr) (s : Src) :
    evalSrc heap slots args s = vEvalSrc (slots.map heap) (args.map heap) s := by
  induction s with
  | const v => rfl
  | slot k =>
    simp only [evalSrc, vEvalSrc, List.getElem?_map]
    cases slots[k]? <;> rfl
  | arg i =>
    simp only [evalSrc, vEvalSrc, List.getElem?_map]
    cases args[i]? <;> rfl
  | add a b iha ihb => simp only [evalSrc, vEvalSrc, iha, ihb]

theorem argAddrs_mem (held : List Addr) (hs : List Nat) : ∀ a ∈ argAddrs held hs, a ∈ held := by
  intro a ha
  obtain ⟨h, _, hh⟩ := List.mem_filterMap.mp ha
  exact List.mem_of_getElem? hh

theorem argVals_map (heap : Addr → Val) (held : List Addr) (hs : List Nat) :
    argVals (held.map heap) hs = (argAddrs held hs).map heap := by
  simp only [argVals, argAddrs, List.map_filterMap, List.getElem?_map]

/-- `l` lists objects allocated so far, each once: `n` is the next address to be handed out -/
def Alloc (l : List Addr) (n : Addr) : Prop := l.Nodup ∧ ∀ a ∈ l, a < n

theorem Alloc.not_mem {l : List Addr} {n : Addr} (h : Alloc l n) : n ∉ l := fun hn => Nat.lt_irrefl n (h.2 n hn)

theorem Alloc.snoc {l : List Addr} {n : Addr} (h : Alloc l n) : Alloc (l ++ [n]) (n + 1) := by
  constructor
  · rw [List.nodup_append]
    refine ⟨h.1, List.nodup_cons.mpr ⟨List.not_mem_nil, List.nodup_nil⟩, fun a ha b hb hab => ?_⟩
    cases List.mem_singleton.mp hb
    exact h.not_mem (hab ▸ ha)
  · intro a ha
    rcases List.mem_append.mp ha with ha | ha
    · exact Nat.lt_succ_of_lt (h.2 a ha)
    · cases List.mem_singleton.mp ha
      exact Nat.lt_succ_self n

theorem Alloc.left {l r : List Addr} {n : Addr} (h : Alloc (l ++ r) n) : Alloc l n :=
  ⟨(List.nodup_append.mp h.1).1, fun a ha => h.2 a (List.mem_append_left r ha)⟩

theorem Alloc.disjoint {l r : List Addr} {n a : Addr} (h : Alloc (l ++ r) n) (hl : a ∈ l) : a ∉ r :=
  fun hr => (List.nodup_append.mp h.1).2.2 a hl a hr rfl

/-- separation: library cells and the caller's objects are pairwise different allocated objects; what the copy
discipline preserves (`step_refines`) and what makes the heap machine agree with the value machine -/
abbrev Sep (s : St) : Prop := Alloc (s.slots ++ s.held) s.next

theorem init_sep (n : Nat) : Sep (init n) :=
  ⟨by simp [init, List.nodup_range], fun a ha => by simpa [init] using ha⟩

theorem abs_init (n : Nat) : abs (init n) = vinit n := by
  simp only [abs, init, vinit, cellVals, heldVals, List.map_nil]
  congr 1
  apply List.ext_getElem <;> simp

/-- invariant of the frame of a disciplined call started in `s`; `dead` is unconstrained -/
structure FInv (s : St) (f : Frame) (vf : VFrame) : Prop where
  slots : f.slots = s.slots
  alloc : Alloc (s.slots ++ s.held ++ f.res) f.next
  heldv : ∀ a ∈ s.held, f.heap a = s.heap a
  cells : vf.cells = f.slots.map f.heap
  res : vf.res = f.res.map f.heap

theorem finv_start (s : St) (hs : Sep s) : FInv s ⟨s.heap, s.next, s.slots, s.dead, []⟩ ⟨cellVals s, []⟩ :=
  ⟨rfl, by rw [List.append_nil]; exact hs, fun _ _ => rfl, rfl, rfl⟩

section frame

variable {s : St} {f : Frame} {vf : VFrame}

theorem FInv.evalSrc (h : FInv s f vf) {args : List Addr} (hargs : ∀ a ∈ args, a ∈ s.held) (src : Src) :
    evalSrc f.heap f.slots args src = vEvalSrc vf.cells (args.map s.heap) src := by
  rw [evalSrc_eq, h.cells, List.map_congr_left fun a ha => h.heldv a (hargs a ha)]

/-- the heap machine writes `v`, the value machine `v'`; `hv` comes from `FInv.evalSrc` -/
theorem FInv.setSlot (h : FInv s f vf) (k : Nat) {v v' : Val} (hv : v = v') :
    FInv s (match f.slots[k]? with | some a => { f with heap := upd f.heap a v } | none => f)
      ⟨vf.cells.set k v', vf.res⟩ := by
  subst hv
  cases hk : f.slots[k]? with
  | none =>
    have hlen : vf.cells.length ≤ k := by rw [h.cells, List.length_map]; exact List.getElem?_eq_none_iff.mp hk
    rw [List.set_eq_of_length_le hlen]
    exact h
  | some a =>
    have hmem : a ∈ s.slots := h.slots ▸ List.mem_of_getElem? hk
    refine ⟨h.slots, h.alloc, fun x hx => ?_, ?_, ?_⟩
    · exact Eq.trans (upd_ne fun e => h.alloc.left.disjoint hmem (e ▸ hx)) (h.heldv x hx)
    · show vf.cells.set k v = f.slots.map (upd f.heap a v)
      rw [map_upd_nodup (h.slots ▸ h.alloc.left.left.1) hk, h.cells]
    · show vf.res = f.res.map (upd f.heap a v)
      rw [map_upd_not_mem (h.alloc.disjoint (List.mem_append_left _ hmem)), h.res]

theorem FInv.retFresh (h : FInv s f vf) {v v' : Val} (hv : v = v') {d : List Addr} :
    FInv s ⟨upd f.heap f.next v, f.next + 1, f.slots, d, f.res ++ [f.next]⟩ ⟨vf.cells, vf.res ++ [v']⟩ := by
  subst hv
  have hfresh := h.alloc.not_mem
  simp only [List.mem_append, not_or] at hfresh
  refine ⟨h.slots, ?_, fun x hx => ?_, ?_, ?_⟩
  · show Alloc (s.slots ++ s.held ++ (f.res ++ [f.next])) (f.next + 1)
    rw [← List.append_assoc]
    exact h.alloc.snoc
  · exact Eq.trans (upd_ne fun e => hfresh.1.2 (e ▸ hx)) (h.heldv x hx)
  · show vf.cells = f.slots.map (upd f.heap f.next v)
    rw [map_upd_not_mem (h.slots ▸ hfresh.1.1), h.cells]
  · show vf.res ++ [v] = (f.res ++ [f.next]).map (upd f.heap f.next v)
    rw [List.map_append, map_upd_not_mem hfresh.2, h.res, List.map_singleton, upd_same]

theorem finv_step (args : List Addr) (hargs : ∀ a ∈ args, a ∈ s.held)
    (ins : Instr) (hd : ins.discipline = true) (h : FInv s f vf) :
    FInv s (execInstr args f ins) (vExecInstr (args.map s.heap) vf ins) := by
  cases ins with
  | setSlot k src => exact h.setSlot k (h.evalSrc hargs src)
  | stash i =>
    show FInv s (match args[i]? with | some a => { f with dead := f.dead ++ [a] } | none => f) vf
    cases args[i]? <;> exact ⟨h.slots, h.alloc, h.heldv, h.cells, h.res⟩
  | retFresh src => exact h.retFresh (h.evalSrc hargs src)
  | retFreshStash src => exact h.retFresh (h.evalSrc hargs src)
  | aliasSlot | writeArg | retSlot | retArg => cases hd

theorem finv_fold (args : List Addr) (hargs : ∀ a ∈ args, a ∈ s.held) (ins : List Instr)
    (hd : ins.all Instr.discipline = true) (h : FInv s f vf) :
      FInv s (ins.foldl (execInstr args) f) (ins.foldl (vExecInstr (args.map s.heap)) vf) := by
  induction ins generalizing f vf with
  | nil => exact h
  | cons i is ih =>
    rw [List.all_cons, Bool.and_eq_true] at hd
    exact ih hd.2 (finv_step args hargs i hd.1 h)

end frame

theorem step_refines (s : St) (hs : Sep s) (st : Step) (hd : st.discipline = true) :
    Sep (step s st) ∧ abs (step s st) = vstep (abs s) st := by
  cases st with
  | new v =>
    have hfresh := hs.not_mem
    rw [List.mem_append, not_or] at hfresh
    constructor
    · show Alloc (s.slots ++ (s.held ++ [s.next])) (s.next + 1)
      rw [← List.append_assoc]
      exact hs.snoc
    · simp only [abs, step, vstep, cellVals, heldVals, List.map_append, List.map_singleton, upd_same]
      rw [map_upd_not_mem hfresh.1, map_upd_not_mem hfresh.2]
  | write h v =>
    simp only [step, vstep]
    cases hk : s.held[h]? with
    | none =>
      have hlen : (heldVals s).length ≤ h := by rw [heldVals, List.length_map]; exact List.getElem?_eq_none_iff.mp hk
      exact ⟨hs, by rw [abs, List.set_eq_of_length_le hlen]⟩
    | some a =>
      have hns : a ∉ s.slots := fun hx => hs.disjoint hx (List.mem_of_getElem? hk)
      refine ⟨hs, ?_⟩
      simp only [abs, cellVals, heldVals]
      rw [map_upd_not_mem hns, map_upd_nodup (List.nodup_append.mp hs.1).2.1 hk]
  | call ins hsn =>
    have hF := finv_fold _ (argAddrs_mem s.held hsn) ins hd (finv_start s hs)
    constructor
    · simp only [Sep, step]
      rw [hF.slots, ← List.append_assoc]
      exact hF.alloc
    · simp only [abs, step, vstep, cellVals, heldVals, List.map_append]
      rw [argVals_map, List.map_congr_left hF.heldv, ← hF.cells, ← hF.res]
      rfl

theorem run_refines : ∀ (p : List Step) (s : St), Sep s → Disciplined p →
    Sep (run p s) ∧ abs (run p s) = vrun p (abs s) := by
  intro p
  induction p with
  | nil => intro s hs _; exact ⟨hs, rfl⟩
  | cons st rest ih =>
    intro s hs hd
    obtain ⟨hd0, hdr⟩ := List.forall_mem_cons.1 hd
    have h1 := step_refines s hs st hd0
    have h2 := ih (step s st) h1.1 hdr
    rw [h1.2] at h2
    exact h2

theorem run_append (p q : List Step) (s : St) : run (p ++ q) s = run q (run p s) :=
  List.foldl_append

theorem vrun_append (p q : List Step) (v : VSt) : vrun (p ++ q) v = vrun q (vrun p v) :=
  List.foldl_append

theorem vrun_lastWrite (h : Nat) (rest : List Step) (v : VSt) (x : Val) (hx : v.held[h]? = some x) :
    (vrun rest v).held[h]? = some (lastWrite h rest x) := by
  induction rest generalizing v x with
  | nil => exact hx
  | cons st rest ih =>
    have hlt : h < v.held.length := (List.getElem?_eq_some_iff.mp hx).1
    cases st with
    | new y => exact ih _ _ ((List.getElem?_append_left hlt).trans hx)
    | call ins hs => exact ih _ _ ((List.getElem?_append_left hlt).trans hx)
    | write h' y =>
      show _ = some (if h' = h then lastWrite h rest y else lastWrite h rest x)
      split
      · next e => exact ih _ _ (e ▸ List.getElem?_set_self (e ▸ hlt))
      · next e => exact ih _ _ ((List.getElem?_set_ne e).trans hx)

/-- two value states that differ at most in caller objects outside `U` -/
structure Agree (U : Nat → Bool) (v w : VSt) : Prop where
  cells : v.cells = w.cells
  trace : v.trace = w.trace
  len : v.held.length = w.held.length
  held : ∀ h, U h = true → v.held[h]? = w.held[h]?

theorem agree_refl (U : Nat → Bool) (v : VSt) : Agree U v v := ⟨rfl, rfl, rfl, fun _ _ => rfl⟩

theorem argVals_congr {l1 l2 : List Val} {hs : List Nat} (h : ∀ x ∈ hs, l1[x]? = l2[x]?) :
    argVals l1 hs = argVals l2 hs := by
  induction hs with
  | nil => rfl
  | cons x xs ih =>
    simp only [argVals, List.filterMap_cons] at ih ⊢
    rw [h x List.mem_cons_self, ih fun y hy => h y (List.mem_cons_of_mem x hy)]

section agree

variable {U U' : Nat → Bool} {v w : VSt}

theorem Agree.append (hag : Agree U v w) (hU : ∀ h, U' h = true → U h = true) {c r : List Val}
    {t : List (List Val)} : Agree U' ⟨c, v.held ++ r, t⟩ ⟨c, w.held ++ r, t⟩ :=
  ⟨rfl, rfl, by rw [List.length_append, List.length_append, hag.len], fun h hu => by
    rw [List.getElem?_append, List.getElem?_append, hag.len, hag.held h (hU h hu)]⟩

theorem Agree.step (hag : Agree U v w) (st : Step) (hU : ∀ h, U' h = true → U h = true)
    (hargs : ∀ ins hs, st = .call ins hs → ∀ x ∈ hs, U x = true) : Agree U' (vstep v st) (vstep w st) := by
  cases st with
  | new x =>
    show Agree U' ⟨v.cells, v.held ++ [x], v.trace⟩ ⟨w.cells, w.held ++ [x], w.trace⟩
    rw [hag.cells, hag.trace]
    exact hag.append hU
  | write h' x =>
    refine ⟨hag.cells, hag.trace, ?_, fun h hu => ?_⟩
    · exact List.length_set.trans (hag.len.trans List.length_set.symm)
    · show (v.held.set h' x)[h]? = (w.held.set h' x)[h]?
      rw [List.getElem?_set, List.getElem?_set, hag.len, hag.held h (hU h hu)]
  | call ins hs =>
    have e : argVals v.held hs = argVals w.held hs := argVals_congr fun x hx => hag.held x (hargs ins hs rfl x hx)
    show Agree U' ⟨_, v.held ++ _, v.trace ++ _⟩ ⟨_, w.held ++ _, w.trace ++ _⟩
    rw [e, hag.cells, hag.trace]
    exact hag.append hU

theorem Agree.deadWrite (hag : Agree U v w) {h' : Nat} (hu' : U h' = false) (x : Val) :
    Agree U (vstep v (.write h' x)) w :=
  ⟨hag.cells, hag.trace, List.length_set.trans hag.len, fun h hu =>
    (List.getElem?_set_ne fun (e : h' = h) => Bool.false_ne_true (hu'.symm.trans (e ▸ hu))).trans (hag.held h hu)⟩

end agree

theorem vrun_strip (rest : List Step) (v w : VSt) (hag : Agree (fun h => usedLater h rest) v w) :
    (vrun rest v).trace = (vrun (stripDeadWrites rest) w).trace := by
  induction rest generalizing v w with
  | nil => exact hag.trace
  | cons st rest ih =>
    cases st with
    | new x => exact ih _ _ (hag.step _ (fun _ hu => hu) nofun)
    | write h' x =>
      show _ = (vrun (if usedLater h' rest = true then _ else _) w).trace
      cases hu' : usedLater h' rest with
      | true => exact ih _ _ (hag.step _ (fun _ hu => hu) nofun)
      | false => exact ih _ _ (hag.deadWrite hu' x)
    | call ins hs =>
      refine ih _ _ (hag.step _ (fun h hu => ?_) fun _ _ e x hx => ?_)
      · exact Bool.or_eq_true_iff.mpr (Or.inr hu)
      · cases e
        exact Bool.or_eq_true_iff.mpr (Or.inl (List.contains_iff_mem.mpr hx))

theorem strip_sublist (rest : List Step) : (stripDeadWrites rest).Sublist rest := by
  induction rest with
  | nil => exact .slnil
  | cons st rest ih =>
    cases st with
    | write h v =>
      show List.Sublist (if usedLater h rest = true then _ else _) _
      split
      · exact ih.cons_cons _
      · exact ih.cons _
    | new | call => exact ih.cons_cons _

theorem strip_disciplined (rest : List Step) (h : Disciplined rest) : Disciplined (stripDeadWrites rest) :=
  fun st hst => h st ((strip_sublist rest).subset hst)

theorem compileArgs_all (l : List ArgMode) (i : Nat) :
    (compileArgs i l).all Instr.discipline = l.all ArgMode.discipline := by
  induction l generalizing i with
  | nil => rfl
  | cons m ms ih =>
    rw [compileArgs, List.all_append, ih, List.all_cons]
    cases m <;> rfl

theorem compileRess_all (n : Nat) (l : List ResMode) (j : Nat) :
    (compileRess n j l).all Instr.discipline = l.all ResMode.discipline := by
  induction l generalizing j with
  | nil => rfl
  | cons m ms ih =>
    rw [compileRess, List.all_append, ih, List.all_cons]
    cases m <;> rfl

theorem compile_all (sig : Sig) : (compile sig).all Instr.discipline = sig.discipline := by
  rw [compile, List.all_append, List.all_append, compileArgs_all, compileRess_all]
  rfl

theorem join_discipline {a b : ArgMode} (ha : a.discipline = true) (hb : b.discipline = true) :
    (a.join b).discipline = true := by
  unfold ArgMode.join
  split <;> assumption

theorem apply_discipline {w : WRes} {m : ResMode} (hw : w ≠ .internal) (hm : m.discipline = true) :
    (w.apply m).discipline = true := by
  cases w with
  | new => rfl
  | pass => exact hm
  | passRetained => cases m <;> exact hm
  | internal => exact absurd rfl hw

theorem ite_ne {α : Type} {c : Prop} [Decidable c] {a b x : α} (ha : a ≠ x) (hb : b ≠ x) :
    (if c then a else b) ≠ x := by
  split <;> assumption

theorem clean_spec {L : Layer} (hc : L.clean = true) :
    L.actions.discipline = true ∧ ∀ call name, L.wres call name ≠ .internal := by
  simp only [Layer.clean, Bool.and_eq_true, bne_iff_ne, ne_eq] at hc
  obtain ⟨⟨⟨⟨⟨hActs, hReset⟩, hObs⟩, hRewards⟩, hDones⟩, hInfos⟩ := hc
  -- `Layer.wres` is a cascade of `if`s over these five fields, ending in `.pass`
  exact ⟨hActs, fun _ _ => ite_ne hReset (ite_ne hObs (ite_ne hRewards (ite_ne hDones (ite_ne hInfos (by decide)))))⟩

theorem applyLayer_discipline (call : String) {r : Row} {L : Layer} (hr : r.sig.discipline = true)
    (hL : L.clean = true) : (applyLayer call r L).sig.discipline = true := by
  obtain ⟨ha, hw⟩ := clean_spec hL
  simp only [Row.sig, Sig.discipline, applyLayer, Bool.and_eq_true, List.all_map, List.all_eq_true,
    Function.comp] at hr ⊢
  refine ⟨fun p hp => ?_, fun p hp => apply_discipline (hw call p.1) (hr.2 p hp)⟩
  split
  · exact join_discipline (hr.1 p hp) ha
  · exact hr.1 p hp

end SB3Verif.Ownership.Lemmas
