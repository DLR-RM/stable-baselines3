/-
C08 — Target networks change only by the Polyak rule, at the configured cadence.

All statements are about the executable models `SB3Verif/Model/Polyak.lean` and
`SB3Verif/Model/Cadence.lean`, whose definitions the driver `SB3Verif/Driver/C08.lean` runs against the real
`polyak_update` and real DQN / SAC / TD3 / DDPG training runs.
-/
import SB3Verif.Lemmas.Polyak
import SB3Verif.Lemmas.Cadence
import Mathlib.Tactic.Ring

namespace SB3Verif.C08

open SB3Verif.Polyak SB3Verif.Cadence

/-! ### The averaging rule (all parameter values, all `tau`) -/

section algebra
variable {α : Type} [CommRing α]

/-- The two in-place lines `t.mul_(1 - tau); t += tau * o` compute `(1 - tau) * t + tau * o`. -/
theorem polyak_rule (τ t o : α) : polyak1 τ t o = (1 - τ) * t + τ * o :=
  congrArg (· + τ * o) (mul_comm t (1 - τ))

/-- `tau = 1` copies the online value (hard update; also how running statistics are copied). -/
theorem polyak_tau_one (t o : α) : polyak1 1 t o = o := by
  simp [polyak_rule]

/-- `tau = 0` leaves the target alone. -/
theorem polyak_tau_zero (t o : α) : polyak1 0 t o = t := by
  simp [polyak_rule]

/-- `k` updates against a constant online value: `(1-tau)^k * t + (1 - (1-tau)^k) * o`. -/
theorem polyak_iter (τ t o : α) (k : ℕ) :
    (fun x => polyak1 τ x o)^[k] t = (1 - τ) ^ k * t + (1 - (1 - τ) ^ k) * o := by
  induction k generalizing t with
  | zero => simp
  | succ k ih =>
    rw [Function.iterate_succ_apply, ih, polyak_rule]
    ring

end algebra

/-- For `tau ∈ [0, 1]` the new target lies between the old target and the online value. -/
theorem polyak_convex {α : Type} [CommRing α] [LinearOrder α] [IsStrictOrderedRing α]
    (τ t o : α) (h0 : 0 ≤ τ) (h1 : τ ≤ 1) :
    min t o ≤ polyak1 τ t o ∧ polyak1 τ t o ≤ max t o :=
  -- `polyak1 τ x x = x` and the rule is monotone in both arguments: compare with `x = min t o` and `x = max t o`
  ⟨(Lemmas.Polyak.polyak1_fixed τ (min t o)).ge.trans
      (Lemmas.Polyak.polyak1_mono h0 h1 (min_le_left t o) (min_le_right t o)),
    (Lemmas.Polyak.polyak1_mono h0 h1 (le_max_left t o) (le_max_right t o)).trans
      (Lemmas.Polyak.polyak1_fixed τ (max t o)).le⟩

section kernel
variable {α : Type} [Add α] [Sub α] [Mul α] [One α]

/-- One tensor: the call succeeds iff the shapes agree, and then the result is the rule applied element by
element (this is what `nv` is in `update_sets_every_target_by_rule`). -/
theorem polyak_tensor_elementwise (τ : α) (t o r : List α) :
    polyakTensor τ t o = some r ↔ t.length = o.length ∧ r = List.zipWith (polyak1 τ) t o := by
  rw [Lemmas.Polyak.polyakTensor_eq]
  split
  · next hl => exact ⟨fun e => ⟨hl, (Option.some.inj e).symm⟩, fun e => congrArg some e.2.symm⟩
  · next hl => exact ⟨nofun, fun e => absurd e.1 hl⟩

/-- `zip_strict`: a different number of online and target tensors is an error, never a truncation. -/
theorem polyak_length_mismatch_errors (τ : α) (params targets : List (List α))
    (h : params.length ≠ targets.length) : polyakUpdate τ params targets = none := by
  rw [polyakUpdate, Lemmas.Polyak.zipStrict_eq, if_neg h]

/-- When the call succeeds, **every** element of **every** target tensor is
`polyak1 tau (old target) (online)`, tensor by tensor, in the order of the two lists. -/
theorem polyak_update_elementwise (τ : α) (params targets r : List (List α))
    (h : polyakUpdate τ params targets = some r) :
    r.length = targets.length ∧
      ∀ i (hp : i < params.length) (ht : i < targets.length) (hr : i < r.length),
        targets[i].length = params[i].length ∧ r[i] = List.zipWith (polyak1 τ) targets[i] params[i] := by
  rw [polyakUpdate, Lemmas.Polyak.zipStrict_eq] at h
  by_cases hl : params.length = targets.length
  · rw [if_pos hl] at h
    obtain ⟨hlen, hs⟩ := Lemmas.Polyak.polyakAll_spec h
    rw [List.length_zip, hl, Nat.min_self] at hlen
    refine ⟨hlen, fun i hp ht hr => ?_⟩
    have := hs i (List.length_zip ▸ Nat.lt_min.2 ⟨hp, ht⟩) hr
    rw [List.getElem_zip] at this
    exact (polyak_tensor_elementwise τ _ _ _).1 this
  · rw [if_neg hl] at h
    cases h

/-- A polyak call writes only the tensors passed as targets: in particular **the online network is
untouched** (and so is every other tensor in the process). -/
theorem polyak_online_untouched (τ : α) (online target : List String) (s s' : Store α)
    (h : polyakGroup τ online target s = some s') (m : String) (hm : m ∉ target) :
    s'.lookup m = s.lookup m :=
  Lemmas.Polyak.polyakGroup_frame h m hm

/-- **What one update does** (all `polyak_update` calls made when the cadence fires, in program order):
if the target tensors are pairwise distinct objects and none of them is also read as an online tensor,
then every target tensor of every group ends as `polyakTensor coef (old target) (old online)` with
`coef = tau` for parameter groups and `coef = 1` (exact copy) for running-statistics groups —
"old" meaning the values just before the first call. -/
theorem update_sets_every_target_by_rule (cfg : Cfg α) (s s' : Store α)
    (h : applyGroups cfg cfg.groups s = some s')
    (hnd : (allTargets cfg.groups).Nodup) (hdis : ∀ o ∈ allOnline cfg.groups, o ∉ allTargets cfg.groups)
    (g : Group) (hg : g ∈ cfg.groups) (i : ℕ) (hi : i < g.online.length) (hi' : i < g.target.length) :
    ∃ ov tv nv, s.lookup g.online[i] = some ov ∧ s.lookup g.target[i] = some tv ∧
      polyakTensor (if g.soft then cfg.tau else 1) tv ov = some nv ∧ s'.lookup g.target[i] = some nv := by
  have hp := List.getElem_mem (show i < (g.online.zip g.target).length from
    List.length_zip ▸ Nat.lt_min.2 ⟨hi, hi'⟩)
  rw [List.getElem_zip] at hp
  exact Lemmas.Cadence.applyGroups_rule h hnd hdis g hg _ hp

end kernel

/-- **Running statistics are copied**: the call with coefficient `1.0` makes the target tensor equal to the
online tensor, exactly. -/
theorem stats_are_copied {α : Type} [CommRing α] (t o r : List α)
    (h : polyakTensor (1 : α) t o = some r) : r = o := by
  obtain ⟨hl, rfl⟩ := (polyak_tensor_elementwise 1 t o r).1 h
  refine List.ext_getElem (by rw [List.length_zipWith, hl, Nat.min_self]) fun i _ _ => ?_
  rw [List.getElem_zipWith, polyak_tau_one]

/-- **No optimizer touches a target**: any sequence of optimizer steps / forward passes leaves every tensor
they do not own bit-identical. (That no target tensor is owned by an optimizer is the structural fact
checked on the real `param_groups` by the harness.) -/
theorem no_optimizer_touches_target {α : Type} (ws : List (Write α)) (s : Store α) (t : String)
    (h : ∀ w ∈ ws, t ∉ w.owned) : (applyWrites ws s).lookup t = s.lookup t :=
  Lemmas.Polyak.lookup_applyWrites_not_owned h

/-! ### Cadence, for every history (any interleaving of environment steps and `train()` calls, any split of
the gradient steps into `train()` calls, any starting counters — i.e. also across `learn()` calls) -/

section cadence
variable {α : Type}

/-- **SAC**: gradient step number `j` (0-based, counted over *all* `train()` calls of the history) updates the
target iff `(n_updates₀ + j) % target_update_interval = 0`; environment steps never do; `_n_updates` ends
as `n_updates₀ +` the number of gradient steps. -/
theorem sac_cadence (cfg : Cfg α) (h : cfg.algo = .sac) (c : Ctr) (ops : List CtrOp) :
    (ctrRun cfg c ops).1 = { c with nUpdates := c.nUpdates + totalGrad ops } ∧
    gradFlags (ctrRun cfg c ops).2 =
      (List.range (totalGrad ops)).map (fun j => (c.nUpdates + j) % cfg.interval == 0) ∧
    envFlags (ctrRun cfg c ops).2 = List.replicate (totalEnv ops) false := by
  have := Lemmas.Cadence.ctrRun_closed cfg 0 (fun u => u % cfg.interval == 0) (fun _ => false)
    (fun c => by simp only [onStepCtr, h]; rfl) (Lemmas.Cadence.ctrStep_train_sac cfg h) c ops
  simpa only [Nat.zero_mul, Nat.add_zero, List.map_const', List.length_range] using this

/-- **TD3 / DDPG**: gradient step number `j` (0-based over all `train()` calls) updates the targets iff
`(n_updates₀ + j + 1) % policy_delay = 0` (the counter is incremented first); environment steps never do;
`_n_updates` ends as `n_updates₀ +` the number of gradient steps. -/
theorem td3_updates_iff_delayed (cfg : Cfg α) (h : cfg.algo = .td3) (c : Ctr) (ops : List CtrOp) :
    (ctrRun cfg c ops).1 = { c with nUpdates := c.nUpdates + totalGrad ops } ∧
    gradFlags (ctrRun cfg c ops).2 =
      (List.range (totalGrad ops)).map (fun j => (c.nUpdates + j + 1) % cfg.delay == 0) ∧
    envFlags (ctrRun cfg c ops).2 = List.replicate (totalEnv ops) false := by
  have := Lemmas.Cadence.ctrRun_closed cfg 0 (fun u => (u + 1) % cfg.delay == 0) (fun _ => false)
    (fun c => by simp only [onStepCtr, h]; rfl) (Lemmas.Cadence.ctrStep_train_td3 cfg h) c ops
  simpa only [Nat.zero_mul, Nat.add_zero, List.map_const', List.length_range] using this

/-- DDPG (`policy_delay = 1`): every gradient step updates the targets. -/
theorem ddpg_updates_every_step (cfg : Cfg α) (h : cfg.algo = .td3) (hd : cfg.delay = 1) (c : Ctr)
    (ops : List CtrOp) : gradFlags (ctrRun cfg c ops).2 = List.replicate (totalGrad ops) true := by
  rw [(td3_updates_iff_delayed cfg h c ops).2.1, hd]
  simp only [Nat.mod_one, beq_self_eq_true, List.map_const', List.length_range]

/-- **DQN**: vectorised environment step number `k` (0-based over the whole history, whatever `train()` calls
are interleaved) updates the target iff `(n_calls₀ + k + 1) % max (I / n_envs) 1 = 0`; gradient steps never do;
`_n_calls` ends as `n_calls₀ +` the number of vectorised steps, `_n_updates` as `n_updates₀ +` the number of gradient steps. -/
theorem dqn_cadence (cfg : Cfg α) (h : cfg.algo = .dqn) (c : Ctr) (ops : List CtrOp) :
    (ctrRun cfg c ops).1 =
      { nCalls := c.nCalls + totalEnv ops, nUpdates := c.nUpdates + totalGrad ops } ∧
    envFlags (ctrRun cfg c ops).2 =
      (List.range (totalEnv ops)).map (fun k => (c.nCalls + k + 1) % dqnEvery cfg == 0) ∧
    gradFlags (ctrRun cfg c ops).2 = List.replicate (totalGrad ops) false := by
  have := Lemmas.Cadence.ctrRun_closed cfg 1 (fun _ => false) (fun k => (k + 1) % dqnEvery cfg == 0)
    (fun c => by simp only [onStepCtr, h]) (Lemmas.Cadence.ctrStep_train_dqn cfg h) c ops
  simp only [Nat.one_mul, List.map_const', List.length_range] at this
  exact ⟨this.1, this.2.2, this.2.1⟩

/-- **DQN, how many target updates a history contains**: over ANY history of vectorised environment steps and `train()`
calls (any number of `learn()` calls, any `train_freq`, any split), starting with call counter `n_calls₀`, the number of
target-network updates is the number of multiples of `max (I / n_envs) 1` in `(n_calls₀, n_calls₀ + K]`, `K` the number of
vectorised steps: `⌊(n_calls₀ + K) / p⌋ − ⌊n_calls₀ / p⌋`. In particular a run of `K` steps from a fresh model makes
`⌊K / p⌋` updates, and no history can make the target drift more or less often than that. -/
theorem dqn_update_count (cfg : Cfg α) (h : cfg.algo = .dqn) (c : Ctr) (ops : List CtrOp) :
    (envFlags (ctrRun cfg c ops).2).count true =
      (c.nCalls + totalEnv ops) / dqnEvery cfg - c.nCalls / dqnEvery cfg ∧
    (gradFlags (ctrRun cfg c ops).2).count true = 0 := by
  obtain ⟨_, h2, h3⟩ := dqn_cadence cfg h c ops
  rw [h2, h3]
  exact ⟨Lemmas.Cadence.count_multiples _ _ _, List.count_replicate⟩

/-- **TD3 / DDPG, how many delayed (actor + target) updates a history contains**: over any history with `G` gradient steps in
total, starting with `_n_updates = u₀`: `⌊(u₀ + G) / policy_delay⌋ − ⌊u₀ / policy_delay⌋`. -/
theorem td3_update_count (cfg : Cfg α) (h : cfg.algo = .td3) (c : Ctr) (ops : List CtrOp) :
    (gradFlags (ctrRun cfg c ops).2).count true =
      (c.nUpdates + totalGrad ops) / cfg.delay - c.nUpdates / cfg.delay := by
  rw [(td3_updates_iff_delayed cfg h c ops).2.1]
  exact Lemmas.Cadence.count_multiples _ _ _

/-- **SAC, how many target updates a history contains** (for `target_update_interval > 0`; with `0` the test
`x % 0 = 0` fires only at `x = 0`): the gradient steps are numbered `u₀, u₀ + 1, …` over ALL `train()`
calls and the multiples of `target_update_interval` among the first `G` of them fire:
`⌈(u₀ + G) / I⌉ − ⌈u₀ / I⌉` (written with floor divisions). -/
theorem sac_update_count (cfg : Cfg α) (h : cfg.algo = .sac) (hI : 0 < cfg.interval) (c : Ctr) (ops : List CtrOp) :
    (gradFlags (ctrRun cfg c ops).2).count true =
      (c.nUpdates + cfg.interval - 1 + totalGrad ops) / cfg.interval - (c.nUpdates + cfg.interval - 1) / cfg.interval := by
  rw [(sac_cadence cfg h c ops).2.1]
  exact Lemmas.Cadence.count_multiples_from _ _ _ hI

/-- **DQN period in environment steps counted across sub-environments**: `p = n_envs * max (I / n_envs) 1`
is `target_update_interval` rounded down to a whole number of vectorised steps (`p ≤ I < p + n_envs`) when
`n_envs ≤ I`, and one vectorised step (`p = n_envs`) otherwise; and "the call counter is a multiple of
`max (I / n_envs) 1`" is the same as "the number of environment steps `calls * n_envs` is a multiple of `p`". -/
theorem dqn_period (I n : ℕ) (hn : 0 < n) :
    (n ≤ I → n * max (I / n) 1 ≤ I ∧ I < n * max (I / n) 1 + n) ∧
    (I < n → n * max (I / n) 1 = n) ∧
    (∀ calls, calls % max (I / n) 1 = 0 ↔ (calls * n) % (n * max (I / n) 1) = 0) := by
  refine ⟨fun hI => ?_, fun hI => ?_, fun calls => ?_⟩
  · rw [Nat.max_eq_left ((Nat.one_le_div_iff hn).mpr hI)]
    exact ⟨Nat.mul_div_le I n, Nat.lt_mul_div_succ I hn⟩
  · rw [Nat.div_eq_of_lt hI, Nat.max_eq_right (Nat.zero_le 1), Nat.mul_one]
  · rw [Nat.mul_comm calls n, Nat.mul_mod_mul_left]
    exact (Nat.mul_eq_zero.trans (or_iff_right hn.ne')).symm

end cadence

section full
variable {α : Type} [Add α] [Sub α] [Mul α] [One α]

/-- The full machine (tensors + counters) takes exactly the decisions of the counter machine: the event
list of any successful run is the one the cadence theorems above describe. -/
theorem run_follows_cadence (cfg : Cfg α) (st st' : St α) (ops : List (Op α)) (evs : List Ev)
    (h : run cfg st ops = some (st', evs)) :
    ctrRun cfg st.ctr (ops.map Op.shape) = (st'.ctr, evs) := by
  induction ops generalizing st evs with
  | nil => cases h; rfl
  | cons op ops ih =>
    obtain ⟨st1, e1, e2, h1, h2, rfl⟩ := Lemmas.Cadence.run_cons h
    rw [List.map_cons, Lemmas.Cadence.ctrRun_cons, Lemmas.Cadence.step_ctr h1, ih st1 e2 h2]

/-- **Targets change only at the configured moments**: over any stretch of history in which no update
fired, every tensor that no optimizer owns — every target tensor — is bit-identical at the end. -/
theorem target_changes_only_when_fired (cfg : Cfg α) (st st' : St α) (ops : List (Op α)) (evs : List Ev)
    (h : run cfg st ops = some (st', evs)) (t : String) (hu : ∀ op ∈ ops, op.untouched t)
    (hq : ∀ e ∈ evs, e.fired = false) : st'.store.lookup t = st.store.lookup t :=
  Lemmas.Cadence.run_frame h t hu fun _ => hq

/-- **Updates leave the online networks untouched**: over any history (updates firing or not), a tensor
that is neither a target of the configuration nor owned by an external write of the history keeps its value;
an online tensor changes only through its own optimizer / forward pass. -/
theorem updates_leave_online_untouched (cfg : Cfg α) (st st' : St α) (ops : List (Op α)) (evs : List Ev)
    (h : run cfg st ops = some (st', evs)) (n : String) (hu : ∀ op ∈ ops, op.untouched n)
    (hn : n ∉ allTargets cfg.groups) : st'.store.lookup n = st.store.lookup n :=
  Lemmas.Cadence.run_frame h n hu fun hc => absurd hc hn

/-- An iteration of `train()` whose cadence test fires ends with the store produced by the
`polyak_update` calls applied to the tensors as the optimizers left them (so
`update_sets_every_target_by_rule` describes every target tensor afterwards). -/
theorem fired_iteration_is_update (cfg : Cfg α) (st st' : St α) (g : ℕ) (it : Iter α)
    (h : iterStep cfg st g it = some (st', true)) :
    applyGroups cfg cfg.groups (applyWrites it.delayed (applyWrites it.pre st.store)) = some st'.store :=
  (Lemmas.Cadence.iterStep_some h).2.1 rfl

/-- Same for DQN's `_on_step`. -/
theorem fired_env_step_is_update (cfg : Cfg α) (st st' : St α) (h : onStep cfg st = some (st', true)) :
    applyGroups cfg cfg.groups st.store = some st'.store :=
  (Lemmas.Cadence.onStep_some h).2.1 rfl

/-- **TD3: no actor update without a target update**: in an iteration that does not fire, the writes inside the
`if` (the actor optimizer step) are not performed either — the store is just `pre` applied. -/
theorem td3_no_actor_update_without_target_update (cfg : Cfg α) (st st' : St α) (g : ℕ) (it : Iter α)
    (h : iterStep cfg st g it = some (st', false)) : st'.store = applyWrites it.pre st.store :=
  (Lemmas.Cadence.iterStep_some h).2.2 rfl

end full

/-! ### Non-vacuity: the hypotheses above are met by concrete non-trivial data -/

/-- `tau = 1/2` on two tensors -/
example : polyakUpdate (1 / 2 : ℚ) [[1, 2], [3]] [[3, 4], [5]] = some [[2, 3], [4]] := by
  decide +kernel

example : polyakUpdate (1 / 2 : ℚ) [[1, 2]] [[3, 4], [5]] = none := by
  rfl

example : polyakTensor (1 : ℚ) [3, 4] [7, 9] = some [7, 9] := by
  decide +kernel

example : (0 : ℚ) ≤ 1 / 200 ∧ (1 / 200 : ℚ) ≤ 1 := by decide +kernel

def exSac : Cfg ℤ :=
  { algo := .sac, nEnvs := 1, interval := 3, delay := 1, tau := 1,
    groups := [⟨["critic.w"], ["critic_target.w"], true⟩, ⟨["critic.rm"], ["critic_target.rm"], false⟩] }

/-- interval 3 and one gradient step per `train()` call: updates at gradient steps 0, 3 (not at every step) -/
example : gradFlags (ctrRun exSac ⟨0, 0⟩
    [.envStep, .train 1, .envStep, .train 1, .envStep, .train 1, .envStep, .train 2]).2 =
    [true, false, false, true, false] := by decide +kernel

example : (allTargets exSac.groups).Nodup ∧ ∀ o ∈ allOnline exSac.groups, o ∉ allTargets exSac.groups := by
  decide +kernel

def exStore : Store ℤ :=
  [("critic.w", [0, 0]), ("critic_target.w", [0, 0]), ("critic.rm", [0]), ("critic_target.rm", [0])]

def exIter (w r : ℤ) : Iter ℤ :=
  { pre := [⟨["critic.w"], [("critic.w", [w, w + 1]), ("critic_target.w", [99, 99])]⟩,
            ⟨["critic.rm"], [("critic.rm", [r])]⟩], delayed := [] }

/-- a successful run: the optimizer's attempt to hand a value for the target is ignored (not owned), the
target follows the online values only at gradient steps 0 and 3 -/
example : (run exSac ⟨exStore, ⟨0, 0⟩⟩
      [.train [exIter 1 10], .envStep, .train [exIter 2 20, exIter 3 30], .train [exIter 4 40]]).map
        (fun r => (r.1.store, r.2)) =
    some ([("critic.w", [4, 5]), ("critic_target.w", [4, 5]), ("critic.rm", [40]), ("critic_target.rm", [40])],
          [.grad true, .env false, .grad false, .grad false, .grad true]) := by decide +kernel

example : ∀ op ∈ [Op.train [exIter 1 10], .envStep, .train [exIter 2 20, exIter 3 30]],
    op.untouched "critic_target.w" := by
  simp only [List.forall_mem_cons, List.not_mem_nil, false_imp_iff, implies_true, Op.untouched,
    Iter.untouched, exIter]
  decide +kernel

def exDqn : Cfg ℤ := { algo := .dqn, nEnvs := 4, interval := 10, delay := 1, tau := 1, groups := [] }

/-- 4 envs, interval 10: every `max (10/4) 1 = 2` calls, i.e. every 8 environment steps -/
example : envFlags (ctrRun exDqn ⟨0, 0⟩ [.envStep, .envStep, .train 3, .envStep, .envStep, .envStep]).2 =
    [false, true, false, true, false] := by decide +kernel

def exTd3 : Cfg ℤ := { algo := .td3, nEnvs := 1, interval := 1, delay := 2, tau := 1, groups := [] }

example : gradFlags (ctrRun exTd3 ⟨0, 0⟩ [.train 1, .envStep, .train 1, .train 3]).2 =
    [false, true, false, true, false] := by decide +kernel

end SB3Verif.C08
