/-
C09 — Saving then loading reproduces the model.

Property theorems only (helper lemmas are in `SB3Verif/Lemmas/SaveLoad.lean`).
All statements are about the executable model `SB3Verif/Model/SaveLoad.lean`, whose definitions the
driver `SB3Verif/Driver/C09.lean` runs against the real `data_to_json` / `json_to_data`,
`BaseAlgorithm.save` / `load` / `get_parameters` / `set_parameters`, `open_path`, and the pickled
`VecNormalize` / replay buffers.

Externals (`Ext`): cloudpickle (`pickle`/`unpickle`), `str()`, float text. The only thing assumed of
them is stated in each theorem (`unpickle (pickle v) = ok v` for the values that are pickled).
-/
import SB3Verif.Lemmas.SaveLoad

namespace SB3Verif.C09

open SB3Verif.SaveLoad

/-- **`json.loads(json.dumps(v)) = v` for every JSON-native value** — `None`, `bool`, `int`, `float`,
`str`, lists of those and dictionaries with pairwise different string keys (`wfKeys`), nested to any depth — values
and types. -/
theorem json_roundtrip_native (E : Ext) (v : PyVal) (hn : isNative v = true) (hw : wfKeys v = true) :
    (jsonDumps E v).map jsonLoads = some v := by
  obtain ⟨j, h1, h2⟩ := Lemmas.native_rt E v hn hw
  rw [h1, ← h2]; rfl

/-- **`data_to_json` never raises** (F-C09-b repaired): whatever the attributes hold — tuple keys,
objects, nested unserialisable values — the final `json.dumps` succeeds. -/
theorem data_to_json_never_raises (E : Ext) (d : List (String × PyVal)) : (dataToJson E d).isSome = true := by
  obtain ⟨j, hj, _⟩ := Lemmas.dataToJson_loads E d
  rw [hj]; rfl

/-- **Round trip of the attribute dictionary** (F-C09-a repaired: tuples stay tuples, non-string keys keep
their type, numpy scalars, classes and callables are pickled):
`json_to_data(data_to_json(d)) = d` for **every** attribute dictionary with pairwise different string
names whose values are Python values (`wfKeys`), assuming only that cloudpickle gives back what it was
given for the values that are pickled (those that are not JSON-native) — and that no attribute that is a dictionary / object has a
first-level key whose `str()` is `":serialized:"`. That last hypothesis cannot be dropped
(`data_roundtrip_serialized_key_counterexample`): finding K-C09-a. -/
theorem data_roundtrip_partial (E : Ext) (d : List (String × PyVal))
    (hnames : (d.map (·.1)).Nodup)
    (hwf : ∀ kv ∈ d, wfKeys kv.2 = true)
    (hpickle : ∀ kv ∈ d, (isJsonSerializable E kv.2 && isNative kv.2) = false →
      E.unpickle (E.pickle kv.2) = .ok kv.2)
    (hkey : noSerializedKey E d = true) :
    roundTrip E [] d = some d :=
  Lemmas.roundTrip_eq E d hnames (Lemmas.itemOk_of_noSerializedKey E d hwf hpickle hkey)

/-- **The full statement is false of the code** (for every behaviour of the externals): a JSON-native
dictionary attribute with a key `":serialized:"` is written as it is and read back as if it were a
pickled value — here the attribute silently disappears (with a string value `json_to_data` raises). -/
theorem data_roundtrip_serialized_key_counterexample (E : Ext) :
    roundTrip E [] [("x", .dict [(.str ":serialized:", .int 5)])] = some [] ∧
      roundTrip E [] [("x", .dict [(.str ":serialized:", .int 5)])] ≠
        some [("x", .dict [(.str ":serialized:", .int 5)])] := by
  have h : roundTrip E [] [("x", .dict [(.str ":serialized:", .int 5)])] = some [] := by rfl
  exact ⟨h, h ▸ nofun⟩

/-- Same for a pickled dictionary: its first-level item overwrites the `":serialized:"` entry that
holds the pickle. -/
theorem data_roundtrip_serialized_key_pickled_counterexample (E : Ext) :
    roundTrip E [] [("x", .dict [(.str ":serialized:", .int 5), (.str "t", .tuple [])])] = some [] := by
  rfl

/-- A name that is listed in `custom_objects` and is among the saved attributes comes back as the caller's object,
whatever value was saved under it — provided loading does not raise. -/
theorem custom_objects_override (E : Ext) (custom d r : List (String × PyVal)) (k : String) (c : PyVal)
    (hc : dictGet custom k = some c) (hk : k ∈ d.map (·.1)) (h : roundTrip E custom d = some r) :
    dictGet r k = some c := by
  obtain ⟨j, hj, hload⟩ := Lemmas.dataToJson_loads E d
  rw [roundTrip, hj] at h
  simp only [jsonToData, hload] at h
  refine Lemmas.loadItems_custom E custom k c hc _ _ _ h (Or.inl ?_)
  rw [Lemmas.strDict_keys, Lemmas.map_snd_keys, Lemmas.serializableData_eq]
  exact Lemmas.mem_keys_dictUpdate (Or.inr (by rwa [Lemmas.map_snd_keys]))

/-! ### The codec before the repairs (documented negative results) -/

/-- before ae37983: a tuple hyper-parameter (`net_arch=(8, 8)`) came back as a list -/
theorem old_codec_tuple_becomes_list (E : Ext) :
    roundTripOld E [("net_arch", .tuple [.int 8, .int 8])] = some [("net_arch", .list [.int 8, .int 8])] := by
  rfl

/-- before ae37983: an integer dictionary key came back as a string -/
theorem old_codec_int_key_becomes_str (E : Ext) :
    roundTripOld E [("x", .dict [(.int 1, .str "a")])] = some [("x", .dict [(.str "1", .str "a")])] := by
  rfl

/-- before ae37983: a numpy float scalar came back as a builtin float -/
theorem old_codec_numpy_scalar_becomes_float (E : Ext) :
    roundTripOld E [("g", .obj "<class 'numpy.float64'>" 0 (some (.float 7)) [])] = some [("g", .float 7)] := by
  rfl

/-- before 38e7f22: a dictionary with a tuple key made `save()` raise `TypeError` -/
theorem old_codec_tuple_key_raises (E : Ext) :
    dataToJsonOld E [("x", .dict [(.tuple [.int 2, .int 3], .str "b")])] = none := by
  rfl

/-- … and the repaired codec round-trips exactly these values. -/
theorem new_codec_roundtrips_old_failures (E : Ext)
    (h1 : E.unpickle (E.pickle (.tuple [.int 8, .int 8])) = .ok (.tuple [.int 8, .int 8]))
    (h2 : E.unpickle (E.pickle (.dict [(.tuple [.int 2, .int 3], .str "b"), (.int 1, .str "a")])) =
      .ok (.dict [(.tuple [.int 2, .int 3], .str "b"), (.int 1, .str "a")]))
    (h3 : E.pyStr (.tuple [.int 2, .int 3]) ≠ ":serialized:") (h4 : E.pyStr (.int 1) ≠ ":serialized:") :
    roundTrip E [] [("net_arch", .tuple [.int 8, .int 8]),
        ("x", .dict [(.tuple [.int 2, .int 3], .str "b"), (.int 1, .str "a")])] =
      some [("net_arch", .tuple [.int 8, .int 8]),
        ("x", .dict [(.tuple [.int 2, .int 3], .str "b"), (.int 1, .str "a")])] := by
  apply data_roundtrip_partial E _ (by decide +kernel) (by decide +kernel)
  · intro kv hkv
    simp only [List.mem_cons, List.not_mem_nil, or_false] at hkv
    rcases hkv with rfl | rfl
    · exact fun _ => h1
    · exact fun _ => h2
  · simp [noSerializedKey, infoItems, keyStr, h3, h4]

/-- **Every attribute is accounted for**: it is in `data`; or it holds a member saved through a
state-dict / `th.save`; or it is in the *named* exclusion set `(exclude ∪ defaults) − include`.
Exactly one of the three. -/
theorem save_covers_all (s : Spec) (excl incl : List String) (attrs : List (String × PyVal))
    (kv : String × PyVal) (h : kv ∈ attrs) :
    (kv ∈ saveData s excl incl attrs ∧ kv.1 ∉ torchTops s ∧ ¬ ((kv.1 ∈ excl ∨ kv.1 ∈ s.excluded) ∧ kv.1 ∉ incl)) ∨
    (kv ∉ saveData s excl incl attrs ∧ kv.1 ∈ torchTops s) ∨
    (kv ∉ saveData s excl incl attrs ∧ kv.1 ∉ torchTops s ∧ (kv.1 ∈ excl ∨ kv.1 ∈ s.excluded) ∧ kv.1 ∉ incl) := by
  simp only [Lemmas.mem_saveData, Lemmas.mem_effExclude, h, true_and]
  by_cases ht : kv.1 ∈ torchTops s
  · exact .inr (.inl ⟨not_not_intro (.inr ht), ht⟩)
  · by_cases hx : (kv.1 ∈ excl ∨ kv.1 ∈ s.excluded) ∧ kv.1 ∉ incl
    · exact .inr (.inr ⟨not_not_intro (.inl hx), ht, hx⟩)
    · exact .inl ⟨fun h => h.elim hx ht, ht, hx⟩

/-- **`include` wins** over `exclude` and over the defaults (unless the name holds a torch-saved member). -/
theorem include_wins (s : Spec) (excl incl : List String) (attrs : List (String × PyVal))
    (kv : String × PyVal) (h : kv ∈ attrs) (hi : kv.1 ∈ incl) (ht : kv.1 ∉ torchTops s) :
    kv ∈ saveData s excl incl attrs := by
  simp [Lemmas.mem_saveData, Lemmas.mem_effExclude, h, hi, ht]

/-- **A torch-saved member is never pickled into `data`**, whatever `include` says. -/
theorem torch_members_never_in_data (s : Spec) (excl incl : List String) (attrs : List (String × PyVal))
    (kv : String × PyVal) (ht : kv.1 ∈ torchTops s) : kv ∉ saveData s excl incl attrs := by
  simp [Lemmas.mem_saveData, Lemmas.mem_effExclude, ht]

/-- An excluded name that is not included is not saved. -/
theorem excluded_not_saved (s : Spec) (excl incl : List String) (attrs : List (String × PyVal))
    (kv : String × PyVal) (hx : kv.1 ∈ excl ∨ kv.1 ∈ s.excluded) (hi : kv.1 ∉ incl) :
    kv ∉ saveData s excl incl attrs := by
  simp [Lemmas.mem_saveData, Lemmas.mem_effExclude, hx, hi]

/-- The member lists of the six algorithms name each torch-saved member once
(hypothesis `htn` of `load_save_attrs`). -/
theorem algo_specs_wellformed (a : Algo) : (a.spec.stateDicts ++ a.spec.torchVars).Nodup := by
  rcases a with _ | _ | _ | ⟨_ | _⟩ | _ | _ <;> simp [Algo.spec]

/-- For every algorithm the top-level name of every torch-saved member is `policy`, one of the default exclusions
(the policy's aliases `actor`, `critic`, …) or an entropy-coefficient member. -/
theorem algo_specs_exclude_networks (a : Algo) :
    ∀ n ∈ torchTops a.spec, n = "policy" ∨ n ∈ a.spec.excluded ∨ n ∈ ["ent_coef_optimizer", "log_ent_coef", "ent_coef_tensor"] := by
  rw [Lemmas.torchTops_spec]
  -- `policy` is the first alternative; every other name is among the algorithm's own additions to
  -- `baseExcluded` (`own`) or an entropy-coefficient member, so `baseExcluded` need not be looked into
  have own {x : String} {l r : List String} {P Q : Prop} (h : x ∈ r) : P ∨ x ∈ l ++ r ∨ Q :=
    .inr (.inl (List.mem_append_right _ h))
  have cons {p : String → Prop} {x : String} {l : List String} (hx : p x) (hl : ∀ n ∈ l, p n) : ∀ n ∈ x :: l, p n :=
    List.forall_mem_cons.2 ⟨hx, hl⟩
  rcases a with _ | _ | _ | ⟨_ | _⟩ | _ | _
  case a2c | ppo | dqn => exact cons (.inl rfl) (cons (.inl rfl) (List.forall_mem_nil _))
  -- the other algorithms list `actor` and `critic` first among their own exclusions
  all_goals refine cons (.inl rfl) (cons (own (.head _)) (cons (own (.tail _ (.head _))) ?_))
  case sac.true => exact cons (.inr (.inr (.head _))) (cons (.inr (.inr (.tail _ (.head _)))) (List.forall_mem_nil _))
  case sac.false => exact cons (.inr (.inr (.tail _ (.tail _ (.head _))))) (List.forall_mem_nil _)
  all_goals exact List.forall_mem_nil _

/-- **Every saved attribute comes back**: for a model with pairwise different attribute names, every
attribute `n` that is not in the effective exclusion set, is not re-created by `_setup_model`
(`rebuilt`, any set outside which `_setup_model` leaves attributes alone), is not overridden by a
`load(**kwargs)` argument and is not one of the two attributes `load` resets on purpose when an
environment is passed (`n_envs`; `_last_obs` under `force_reset`) has, in `load(save(m))`, the value it
had in `m`; every state-dict and torch variable has the state it had in `m`. Codec hypotheses as in
`data_roundtrip_partial`, on the saved attributes only. -/
theorem load_save_attrs (E : Ext) (s : Spec) (excl incl : List String) (m : Model) (a : LoadArgs)
    (rebuilt : List String)
    (hnames : (m.attrs.map (·.1)).Nodup)
    (hwf : ∀ kv ∈ saveData s excl incl m.attrs, wfKeys kv.2 = true)
    (hpickle : ∀ kv ∈ saveData s excl incl m.attrs, (isJsonSerializable E kv.2 && isNative kv.2) = false →
      E.unpickle (E.pickle kv.2) = .ok kv.2)
    (hkey : noSerializedKey E (saveData s excl incl m.attrs) = true)
    (hcustom : a.custom = [])
    (hobs : dictHas (saveData s excl incl m.attrs) "observation_space" = true)
    (hact : dictHas (saveData s excl incl m.attrs) "action_space" = true)
    (htn : (s.stateDicts ++ s.torchVars).Nodup)
    (hts : ∀ n ∈ s.stateDicts ++ s.torchVars, dictHas m.torch n = true)
    (htf : ∀ n ∈ s.stateDicts ++ s.torchVars, dictHas a.freshTorch n = true)
    (hsetup : ∀ attrs n, n ∉ rebuilt → dictGet (a.setup attrs) n = dictGet attrs n) :
    ∃ ar m', save E s excl incl m = some ar ∧ load E s a ar = some m' ∧
      (∀ n, n ∈ m.attrs.map (·.1) → n ∉ effExclude s excl incl → n ∉ rebuilt → n ∉ a.kwargs.map (·.1) →
        (a.envGiven = true → n ≠ "n_envs") → (a.envGiven = true → a.forceReset = true → n ≠ "_last_obs") →
        dictGet m'.attrs n = dictGet m.attrs n) ∧
      (∀ n ∈ s.stateDicts ++ s.torchVars, dictGet m'.torch n = dictGet m.torch n) :=
  Lemmas.load_save E s excl incl m a rebuilt
    ⟨hnames, Lemmas.itemOk_of_noSerializedKey E _ hwf hpickle hkey, hcustom, hobs, hact, htn, hts, htf, hsetup⟩

/-- **`set_parameters(get_parameters())` changes nothing** (and is accepted under `exact_match=True`), for a torch
side that has every declared state-dict. -/
theorem set_get_parameters_id (s : Spec) (t : Torch) (h : ∀ n ∈ s.stateDicts, dictHas t n = true) :
    setParameters s t (getParameters s t) true = some t := by
  have hg : ∀ kv ∈ getParameters s t, dictGet t kv.1 = some kv.2 := Lemmas.mem_filterMap_names t s.stateDicts
  rw [Lemmas.setParameters_exact s t (getParameters s t) (fun kv hkv => Option.isSome_iff_exists.mpr ⟨_, hg kv hkv⟩)
    ((Lemmas.filterMap_names_keys t _ h).symm ▸ Lemmas.sameNames_refl _),
    Lemmas.dictUpdate_same_values hg]

/-- Under `exact_match=True` a parameter dictionary whose names are not exactly the declared ones is
rejected (`ValueError`), so a member missing from the archive cannot go unnoticed. -/
theorem set_parameters_exact_rejects (s : Spec) (t : Torch) (params : List (String × PyVal))
    (h : sameNames (params.map (·.1)) s.stateDicts = false) : setParameters s t params true = none := by
  unfold setParameters
  split
  · rfl
  · simp [h]

/-- **`str`, `pathlib.Path` and open files behave alike**: the two path kinds resolve to the same file
for writing and for reading; an open file object is used as it is in both directions. -/
theorem path_kinds_agree (hasSuffix : String → Bool) (fs : FS) (suffix p : String) (h : Nat) :
    writeTarget hasSuffix suffix (.str p) = writeTarget hasSuffix suffix (.pathlib p) ∧
    readTarget fs suffix (.str p) = readTarget fs suffix (.pathlib p) ∧
    writeTarget hasSuffix suffix (.file h) = .handle h ∧ readTarget fs suffix (.file h) = .handle h :=
  ⟨rfl, rfl, rfl, rfl⟩

/-- **Reading the path that was written finds the file that was written** (suffix added on writing is
added on reading), provided no *other* file already carries the suffix-less name. -/
theorem path_read_after_write (hasSuffix : String → Bool) (fs : FS) (suffix p q : String)
    (hw : writeTarget hasSuffix suffix (.str p) = .named q) (hstale : hasSuffix p = true ∨ fs.contains p = false) :
    readTarget (q :: fs) suffix (.str p) = .named q := by
  simp only [writeTarget, Target.named.injEq] at hw
  by_cases hc : (!hasSuffix p && suffix != "") = true
  · simp only [hc, if_true] at hw
    simp only [Bool.and_eq_true, Bool.not_eq_true', bne_iff_ne, ne_eq] at hc
    have hs : fs.contains p = false := by
      rcases hstale with h | h
      · rw [hc.1] at h; exact absurd h (by simp)
      · exact h
    have hne : q ≠ p := by
      rw [← hw, String.append_assoc]
      exact Lemmas.append_ne_self p _ fun e => hc.2 (String.append_eq_empty_iff.mp e).2
    have hse : (suffix == "") = false := by simpa using hc.2
    have hne' : (p == q) = false := by simpa using fun e => hne e.symm
    simp only [readTarget, List.contains_cons, hne', hs, Bool.or_self, hse, Bool.false_eq_true, if_false, hw]
  · simp only [hc] at hw
    subst hw
    simp [readTarget]

/-- … and the proviso is needed: with a stale file named `model`, `save("model")` writes `model.zip`
but `load("model")` opens `model`. -/
theorem path_stale_file_counterexample :
    writeTarget (fun _ => false) "zip" (.str "model") = .named "model.zip" ∧
      readTarget ["model.zip", "model"] "zip" (.str "model") = .named "model" := by
  decide +kernel

/-- **`VecNormalize.save/load`, `save_replay_buffer/load_replay_buffer` (HER)**: after
`__getstate__` → pickle → `__setstate__` → `set_venv`/`set_env`, every attribute that is neither dropped
by `__getstate__` nor re-bound afterwards has the value it had. -/
theorem getstate_setstate_roundtrip (dropped : List String) (attrs rebind : List (String × PyVal))
    (hn : (attrs.map (·.1)).Nodup) (n : String) (h1 : n ∉ dropped) (h2 : n ∉ rebind.map (·.1)) :
    dictGet (setState (getState dropped attrs) rebind) n = dictGet attrs n := by
  rw [setState, getState, Lemmas.dictGet_dictUpdate_not_mem h2,
    Lemmas.dictUpdate_nil_fresh (Lemmas.filter_keys_nodup hn),
    Lemmas.dictGet_filter_key (fun k => !dropped.contains k) (by simpa using h1)]

/-- … and a re-bound attribute has the value it was re-bound to (`venv`, `num_envs`, `returns`, `env`). -/
theorem setstate_rebinds (state rebind : List (String × PyVal)) (hn : (rebind.map (·.1)).Nodup)
    (n : String) (v : PyVal) (h : dictGet rebind n = some v) :
    dictGet (setState state rebind) n = some v :=
  Lemmas.dictGet_dictUpdate_mem hn h

/-! ### Non-vacuity: the hypotheses above are met by concrete non-trivial data -/

/-- an instance of the externals: pickles by constructor, unpickles the two values used below -/
def exE : Ext where
  pickle := fun v => match v with | .tuple _ => "T" | _ => "D"
  unpickle := fun s => if s = "T" then .ok (.tuple [.int 8, .int 8])
    else .ok (.dict [(.tuple [.int 2, .int 3], .str "b"), (.int 1, .str "a")])
  pyStr := fun _ => "<str>"
  floatKey := fun _ => "0.5"

def exAttrs : List (String × PyVal) :=
  [("gamma", .float 4607182418800017408), ("net_arch", .tuple [.int 8, .int 8]),
   ("kw", .dict [(.str "a", .list [.int 1, .none]), (.str "b", .dict [(.str "c", .bool true)])]),
   ("x", .dict [(.tuple [.int 2, .int 3], .str "b"), (.int 1, .str "a")]),
   ("observation_space", .int 0), ("action_space", .int 1)]

example : isNative (.dict [(.str "a", .list [.int 1, .none]), (.str "b", .dict [(.str "c", .bool true)])]) = true ∧
    wfKeys (.dict [(.str "a", .list [.int 1, .none]), (.str "b", .dict [(.str "c", .bool true)])]) = true := by
  decide +kernel

example : (exAttrs.map (·.1)).Nodup ∧ (∀ kv ∈ exAttrs, wfKeys kv.2 = true) ∧
    (∀ kv ∈ exAttrs, (isJsonSerializable exE kv.2 && isNative kv.2) = false →
      exE.unpickle (exE.pickle kv.2) = .ok kv.2) ∧ noSerializedKey exE exAttrs = true := by
  refine ⟨by decide +kernel, by decide +kernel, ?_, by decide +kernel⟩
  intro kv hkv
  simp only [exAttrs, List.mem_cons, List.not_mem_nil, or_false] at hkv
  rcases hkv with h | h | h | h | h | h <;> subst h <;> first | (intro _; rfl) | (intro hc; exact absurd hc (by decide))

example : roundTrip exE [] exAttrs = some exAttrs := by
  apply data_roundtrip_partial exE exAttrs (by decide +kernel) (by decide +kernel) _ (by decide +kernel)
  intro kv hkv
  simp only [exAttrs, List.mem_cons, List.not_mem_nil, or_false] at hkv
  rcases hkv with h | h | h | h | h | h <;> subst h <;> first | (intro _; rfl) | (intro hc; exact absurd hc (by decide))

example : (saveData (Algo.sac true).spec ["gamma"] ["replay_buffer"]
    [("gamma", .int 1), ("replay_buffer", .int 2), ("policy", .int 3), ("actor", .int 4), ("tau", .int 5),
     ("log_ent_coef", .int 6), ("env", .int 7)]).map (·.1) = ["replay_buffer", "tau"] := by
  rw [saveData, effExclude, Lemmas.torchTops_spec]
  decide +kernel

example : sameNames ["policy"] (Algo.dqn.spec.stateDicts) = false := by decide +kernel

example : writeTarget (fun p => p == "run.v2") "zip" (.str "a/model") = .named "a/model.zip" ∧
    writeTarget (fun p => p == "run.v2") "zip" (.str "run.v2") = .named "run.v2" := by decide +kernel

end SB3Verif.C09
