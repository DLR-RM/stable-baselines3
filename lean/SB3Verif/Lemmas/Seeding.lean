/-
Helper lemmas for C10 (`SB3Verif/Props/C10.lean`): soundness and completeness of the taint analysis `traceOK`
of `SB3Verif/Model/Seeding.lean`, and the invariants of the library's draw-site trace `libTrace`.
-/
import SB3Verif.Model.Seeding

namespace SB3Verif.Lemmas.Seeding

open SB3Verif.Seeding

/-- Closure properties of a relation `G` between a generator's mark and its two concrete states and a relation `Q`
between what is known of a pending seed and its two concrete values: the five ways an operation changes a generator
or a pending seed. Every operation preserves such a pair (`Rel.step`); soundness of the analysis is the instance
`AgreeGen`, `AgreePend`, completeness the instance `DifferGen`, `DifferPend`. -/
structure Pointwise (G : Bool → Stream → Stream → Prop) (Q : PendK → Option Nat → Option Nat → Prop) : Prop where
  assign : ∀ v, G true v v
  advance : ∀ {m x y} (k : Nat), G m x y → G m ⟨x.origin, x.pos + k⟩ ⟨y.origin, y.pos + k⟩
  envSeed : ∀ k, Q .some (some k) (some k)
  cleared : Q .none none none
  deliver : ∀ {m x y kd pa pb}, G m x y → Q kd pa pb →
    G (match kd with | .some => true | .none => m | .unknown => false)
      (match pa with | some k => ⟨.seed k, 0⟩ | none => x) (match pb with | some k => ⟨.seed k, 0⟩ | none => y)

def Rel (G : Bool → Stream → Stream → Prop) (Q : PendK → Option Nat → Option Nat → Prop) (L : Low)
    (a b : RngState) : Prop :=
  (∀ g, G (L.gens g) (a.gens g) (b.gens g)) ∧ ∀ i, Q (L.pend i) (a.pending i) (b.pending i)

section
variable {G : Bool → Stream → Stream → Prop} {Q : PendK → Option Nat → Option Nat → Prop} {L : Low} {a b : RngState}

/-- the `seed` and `reset` branches of `lowStep` and `step`, written out -/
theorem Rel.assign (P : Pointwise G Q) (h : Rel G Q L a b) (g : Gen) (v : Stream) :
    Rel G Q (if g = .os then L else { L with gens := fun x => if x = g then true else L.gens x })
      (if g = .os then (a, ([] : List Draw)) else (a.setGen g v, [])).1
      (if g = .os then (b, ([] : List Draw)) else (b.setGen g v, [])).1 := by
  split
  · exact h
  · refine ⟨fun x => ?_, h.2⟩
    show G (if x = g then _ else _) (if x = g then _ else _) (if x = g then _ else _)
    split
    · exact P.assign v
    · exact h.1 x

theorem Rel.advance (P : Pointwise G Q) (h : Rel G Q L a b) (g : Gen) (k : Nat) :
    Rel G Q L (a.advance g k) (b.advance g k) := by
  refine ⟨fun x => ?_, h.2⟩
  show G _ (if x = g then _ else _) (if x = g then _ else _)
  split
  · next e => subst e; exact P.advance k (h.1 x)
  · exact h.1 x

theorem Rel.step (P : Pointwise G Q) (h : Rel G Q L a b) (op : Op) :
    Rel G Q (lowStep L op) (step a op).1 (step b op).1 := by
  cases op with
  | seed g s => exact h.assign P g ⟨.seed s, 0⟩
  | reset g => exact h.assign P g ⟨.const, 0⟩
  | envSeed s n =>
    refine ⟨h.1, fun i => ?_⟩
    show Q (if i < n then _ else _) (if i < n then _ else _) (if i < n then _ else _)
    split
    · exact P.envSeed _
    · exact h.2 i
  | setOptions o => exact h
  | envReset n =>
    refine ⟨fun x => ?_, fun i => ?_⟩
    · cases x with
      | env i =>
        show G (if i < n then _ else _) (if i < n then _ else _) (if i < n then _ else _)
        split
        · exact P.deliver (h.1 _) (h.2 i)
        · exact h.1 _
      | _ => exact h.1 _
    · show Q (if i < n then _ else _) (if i < n then _ else _) (if i < n then _ else _)
      split
      · exact P.cleared
      · exact h.2 i
  | draw g k => exact h.advance P g k
  | discard g k => exact h.advance P g k

end

theorem step_out (a : RngState) (op : Op) :
    (step a op).2 = match op with | .draw g k => [⟨g, (a.gens g).origin, (a.gens g).pos, k⟩] | _ => [] := by
  cases op with
  | seed g s => show (if g = .os then _ else _ : RngState × List Draw).2 = []; split <;> rfl
  | reset g => show (if g = .os then _ else _ : RngState × List Draw).2 = []; split <;> rfl
  | _ => rfl

def AgreeGen (m : Bool) (x y : Stream) : Prop := m = true → x = y

def AgreePend : PendK → Option Nat → Option Nat → Prop
  | .unknown, _, _ => True
  | .none, x, y => x = none ∧ y = none
  | .some, x, y => x = y ∧ ∃ k, x = some k

/-- two generator states agree on everything the analysis marks as seed-determined -/
def Agree : Low → RngState → RngState → Prop := Rel AgreeGen AgreePend

theorem agree_bot (a b : RngState) : Agree Low.bot a b := ⟨fun _ h => Bool.noConfusion h, fun _ => trivial⟩

theorem agree_pointwise : Pointwise AgreeGen AgreePend where
  assign _ _ := rfl
  advance k h hm := by rw [h hm]
  envSeed k := ⟨rfl, k, rfl⟩
  cleared := ⟨rfl, rfl⟩
  deliver {m x y kd pa pb} hG hQ := by
    cases kd with
    | unknown => exact fun h => nomatch h
    | none => obtain ⟨rfl, rfl⟩ := hQ; exact hG
    | some => obtain ⟨rfl, k, rfl⟩ := hQ; exact fun _ => rfl

theorem run_unwinding (t : List Op) : ∀ (L : Low) (a b : RngState), Agree L a b → traceOK L t = true →
    (run t a).2 = (run t b).2 ∧ Agree (lowRun L t) (run t a).1 (run t b).1 := by
  induction t with
  | nil => intro L a b h _; exact ⟨rfl, h⟩
  | cons op t ih =>
    intro L a b h ok
    rw [traceOK, Bool.and_eq_true] at ok
    obtain ⟨e2, h2⟩ := ih _ _ _ (h.step agree_pointwise op) ok.2
    have e1 : (step a op).2 = (step b op).2 := by
      cases op with
      | draw g k => exact congrArg (fun s : Stream => [Draw.mk g s.origin s.pos k]) (h.1 g ok.1)
      | _ => rw [step_out, step_out]
    exact ⟨by simp only [run]; rw [e1, e2], h2⟩

/-- two ambient states that differ everywhere -/
def ambA : RngState := ⟨fun _ => ⟨.ambient 0, 0⟩, fun _ => some 0, fun _ => none⟩
def ambB : RngState := ⟨fun _ => ⟨.ambient 1, 0⟩, fun _ => some 1, fun _ => none⟩

def DifferGen (m : Bool) (x y : Stream) : Prop := m = false → x.origin ≠ y.origin

def DifferPend : PendK → Option Nat → Option Nat → Prop
  | .unknown, x, y => ∃ x' y', x = some x' ∧ y = some y' ∧ x' ≠ y'
  | .none, x, y => x = none ∧ y = none
  | .some, _, _ => True

/-- along any trace started in `ambA` / `ambB`, whatever the analysis does not mark differs -/
def Differ : Low → RngState → RngState → Prop := Rel DifferGen DifferPend

theorem differ_bot : Differ Low.bot ambA ambB :=
  ⟨fun _ _ h => Origin.noConfusion h Nat.noConfusion, fun _ => ⟨0, 1, rfl, rfl, Nat.noConfusion⟩⟩

theorem differ_pointwise : Pointwise DifferGen DifferPend where
  assign _ h := nomatch h
  advance _ h := h
  envSeed _ := trivial
  cleared := ⟨rfl, rfl⟩
  deliver {m x y kd pa pb} hG hQ := by
    cases kd with
    | unknown => obtain ⟨x', y', rfl, rfl, hxy⟩ := hQ; exact fun _ hc => hxy (Origin.seed.inj hc)
    | none => obtain ⟨rfl, rfl⟩ := hQ; exact hG
    | some => exact fun h => nomatch h

theorem run_differ (t : List Op) : ∀ (L : Low) (a b : RngState), Differ L a b → traceOK L t = false →
    (run t a).2 ≠ (run t b).2 := by
  induction t with
  | nil => intro L a b _ h; cases h
  | cons op t ih =>
    intro L a b hd hbad hc
    simp only [run] at hc
    by_cases hok : opOK L op = true
    · rw [traceOK, hok, Bool.true_and] at hbad
      refine ih _ _ _ (hd.step differ_pointwise op) hbad (List.append_inj hc ?_).2
      rw [step_out, step_out]
      cases op <;> rfl
    · cases op with
      | draw g k => exact hd.1 g (Bool.eq_false_iff.2 hok) (Draw.mk.inj (List.cons.inj hc).1).2.1
      | _ => exact hok rfl

theorem traceOK_append (t u : List Op) : ∀ L, traceOK L (t ++ u) = (traceOK L t && traceOK (lowRun L t) u) := by
  induction t with
  | nil => intro L; rfl
  | cons op t ih => intro L; simp only [List.cons_append, traceOK, lowRun, ih, Bool.and_assoc]

theorem lowRun_append (t u : List Op) : ∀ L, lowRun L (t ++ u) = lowRun (lowRun L t) u := by
  induction t with
  | nil => intro L; rfl
  | cons op t ih => intro L; exact ih _

theorem traceOK_snoc_draw (L : Low) (t : List Op) (g : Gen) (k : Nat) (h : (lowRun L t).gens g = false) :
    traceOK L (t ++ [.draw g k]) = false := by
  rw [traceOK_append, show traceOK (lowRun L t) [.draw g k] = ((lowRun L t).gens g && true) from rfl, h]
  exact Bool.and_false _

/-- one used draw from a generator the analysis has not marked, after any trace, and two ambient states see
different values -/
theorem unmarked_draw_differs {t : List Op} {x : Gen} (k : Nat) (h : (lowRun Low.bot t).gens x = false) :
    ∃ g g' : RngState, outputs (t ++ [.draw x k]) g ≠ outputs (t ++ [.draw x k]) g' :=
  ⟨ambA, ambB, run_differ _ _ _ _ differ_bot (traceOK_snoc_draw _ _ x k h)⟩

theorem run_append (t u : List Op) : ∀ st, run (t ++ u) st =
    ((run u (run t st).1).1, (run t st).2 ++ (run u (run t st).1).2) := by
  induction t with
  | nil => intro st; rfl
  | cons op t ih => intro st; simp only [List.cons_append, run, ih, List.append_assoc]

theorem deliveries_append (t u : List Op) : ∀ st, deliveries (t ++ u) st =
    deliveries t st ++ deliveries u (run t st).1 := by
  induction t with
  | nil => intro st; rfl
  | cons op t ih => intro st; simp only [List.cons_append, deliveries, run, ih, List.append_assoc]

theorem lowRun_seed_other {x : Gen} (s : Nat) {l : List Gen} (hx : x ∉ l) :
    ∀ L : Low, (lowRun L (l.map fun y => Op.seed y s)).gens x = L.gens x := by
  induction l with
  | nil => exact fun _ => rfl
  | cons a l ih =>
    rw [List.mem_cons, not_or] at hx
    refine fun L => (ih hx.2 _).trans ?_
    by_cases hos : a = .os
    · exact congrArg (fun M : Low => M.gens x) (if_pos hos)
    · exact (congrArg (fun M : Low => M.gens x) (if_neg hos)).trans (if_neg hx.1)

/-- the generator families the library assigns from the seed -/
def inFamily (cfg : Cfg) : Gen → Bool
  | .py | .np | .torch | .actSpace => true
  | .env i => decide (i < cfg.nEnvs)
  | .noise => decide (cfg.noise ≠ .none)
  | _ => false

/-- the operations that leave the analysis state as it is and pass it once the family is marked -/
def fineOp (cfg : Cfg) : Op → Bool
  | .draw g _ => inFamily cfg g
  | .discard _ _ => true
  | _ => false

section
variable {α : Type} {p : α → Bool} {l l' : List α}

theorem all_append (h : l.all p = true) (h' : l'.all p = true) : (l ++ l').all p = true := by
  rw [List.all_append, h, h']; rfl

theorem all_ite (c : Prop) [Decidable c] (h : l.all p = true) (h' : l'.all p = true) :
    (if c then l else l').all p = true := by split <;> assumption

end

theorem perEnv_fine (cfg : Cfg) {i : Nat} (h : i < cfg.nEnvs) (k : Nat) : (perEnv cfg i k).all (fineOp cfg) = true :=
  all_append (all_append ((Bool.and_true _).trans (decide_eq_true h)) (all_ite _ rfl rfl)) (all_ite _ rfl rfl)

theorem envDrawOps_fine (cfg : Cfg) (ds : List Nat) : ∀ i, (envDrawOps cfg i ds).all (fineOp cfg) = true := by
  induction ds with
  | nil => intro i; rfl
  | cons k ks ih =>
    intro i
    unfold envDrawOps
    split
    · exact all_append (perEnv_fine cfg ‹_› k) (ih _)
    · rfl

theorem predictOps_fine (cfg : Cfg) (b : Bool) : (predictOps cfg b).all (fineOp cfg) = true := by
  unfold predictOps
  cases cfg.algo
  case dqn => exact all_append rfl (all_ite _ rfl rfl)
  case td3 | ddpg => rfl
  all_goals exact all_ite _ rfl rfl

theorem noiseOps_fine (cfg : Cfg) : (noiseOps cfg).all (fineOp cfg) = true := by
  unfold noiseOps
  cases h : cfg.noise
  -- the Ornstein-Uhlenbeck state is in the family because the configuration has action noise
  case ou => exact (Bool.and_true _).trans (decide_eq_true (p := cfg.noise ≠ .none) (by rw [h]; nofun))
  all_goals rfl

theorem actionOps_fine (cfg : Cfg) (t : Nat) (b : Bool) : (actionOps cfg t b).all (fineOp cfg) = true :=
  all_ite _ (predictOps_fine cfg b) (all_append (all_ite _ rfl (predictOps_fine cfg b)) (noiseOps_fine cfg))

theorem trainOps_fine (cfg : Cfg) (n : Nat) (s b : Bool) : (trainOps cfg n s b).all (fineOp cfg) = true := by
  unfold trainOps
  refine all_append (all_ite _ rfl rfl) ?_
  cases cfg.algo
  case ddpg => exact all_ite _ rfl rfl
  all_goals rfl

theorem segOps_fine (cfg : Cfg) (e : Ev) (h : e ≠ .learnStart) (h' : ∀ ds, e ≠ .reset ds) :
    (segOps cfg e).all (fineOp cfg) = true := by
  cases e with
  | learnStart => exact absurd rfl h
  | reset ds => exact absurd rfl (h' ds)
  | rolloutStart => exact all_ite _ rfl rfl
  | step t k b ds =>
    exact all_append (all_append (all_ite _ rfl rfl) (actionOps_fine cfg t b)) (envDrawOps_fine cfg ds 0)
  | train n s b => exact trainOps_fine cfg n s b
  | _ => rfl

/-- number of `env.reset()` calls of later `learn()` calls among the events -/
def resetCount : List Ev → Nat
  | [] => 0
  | .reset _ :: es => resetCount es + 1
  | _ :: es => resetCount es

theorem resetCount_cons (e : Ev) (es : List Ev) : resetCount (e :: es) = resetCount [e] + resetCount es := by
  cases e with
  | reset ds => exact Nat.add_comm _ 1
  | _ => exact (Nat.zero_add _).symm

/-- `__init__` and `_setup_learn` of the first `learn()` up to and including the first `env.reset()` -/
def setup (cfg : Cfg) : List Op := construct cfg ++ learnStartOps cfg ++ [.envReset cfg.nEnvs]

theorem libTrace_eq (cfg : Cfg) (ds : List Nat) (evs : List Ev) :
    libTrace cfg ds evs = setup cfg ++ (envDrawOps cfg 0 ds ++ eventsOps cfg evs) := by
  simp only [libTrace, firstLearn, segOps, setup, List.append_assoc]

/-- exactly the family is seed-determined and no env seed is pending: the state of the analysis after `setup`,
which nothing in `learn` changes -/
def famLow (cfg : Cfg) : Low := ⟨inFamily cfg, fun i => if i < cfg.nEnvs then .none else .unknown⟩

theorem Low.ext {L M : Low} (hg : ∀ g, L.gens g = M.gens g) (hp : ∀ i, L.pend i = M.pend i) : L = M := by
  cases L; cases M; simp only [Low.mk.injEq]; exact ⟨funext hg, funext hp⟩

theorem lowStep_fine {cfg : Cfg} {op : Op} (h : fineOp cfg op = true) (L : Low) : lowStep L op = L := by
  cases op <;> first | rfl | cases h

theorem lowRun_fine {cfg : Cfg} {t : List Op} (h : t.all (fineOp cfg) = true) (L : Low) : lowRun L t = L := by
  induction t with
  | nil => rfl
  | cons op t ih =>
    rw [List.all_cons, Bool.and_eq_true] at h
    rw [lowRun, lowStep_fine h.1, ih h.2]

/-- the stream the library assigns to a generator of the seeded family -/
def famOrigin (cfg : Cfg) : Gen → Origin
  | .env i => .seed (cfg.seed + i)
  | .noise => .const
  | _ => .seed cfg.seed

theorem famOrigin_eq_seed_add {g : Gen} (h : g ≠ .noise) : ∃ j, ∀ cfg, famOrigin cfg g = .seed (cfg.seed + j) := by
  cases g with
  | env i => exact ⟨i, fun _ => rfl⟩
  | noise => exact absurd rfl h
  | _ => exact ⟨0, fun _ => rfl⟩

def FromSeed (cfg : Cfg) (d : Draw) : Prop :=
  inFamily cfg d.gen = true ∧ d.origin = famOrigin cfg d.gen

/-- the concrete counterpart of `famLow`: the family's streams are those named by the seed, nothing is pending -/
def SeededInv (cfg : Cfg) (st : RngState) : Prop :=
  (∀ g, inFamily cfg g = true → (st.gens g).origin = famOrigin cfg g) ∧ (∀ i, i < cfg.nEnvs → st.pending i = none) ∧
  (∀ i, i < cfg.nEnvs → st.options i = none)

/-- A stretch of `learn` after the set-up leaves both descriptions of the random state as they are: the analysis
accepts `t` from `famLow cfg` and ends there; from a state with `SeededInv` the run keeps it, returns only values of the
family's streams, and each of its `k` resets passes no seed and no options. -/
structure Steady (cfg : Cfg) (t : List Op) (k : Nat) : Prop where
  ok : traceOK (famLow cfg) t = true
  low : lowRun (famLow cfg) t = famLow cfg
  run : ∀ st, SeededInv cfg st → SeededInv cfg (run t st).1 ∧ (∀ d ∈ (run t st).2, FromSeed cfg d) ∧
    deliveries t st = List.replicate k (List.replicate cfg.nEnvs (none, none))

theorem Steady.nil (cfg : Cfg) : Steady cfg [] 0 := ⟨rfl, rfl, fun _ h => ⟨h, (fun _ hd => nomatch hd), rfl⟩⟩

theorem Steady.append {cfg : Cfg} {t u : List Op} {k k' : Nat} (h : Steady cfg t k) (h' : Steady cfg u k') :
    Steady cfg (t ++ u) (k + k') where
  ok := by rw [traceOK_append, h.ok, h.low, h'.ok]; rfl
  low := by rw [lowRun_append, h.low, h'.low]
  run st hst := by
    obtain ⟨a1, a2, a3⟩ := h.run st hst
    obtain ⟨b1, b2, b3⟩ := h'.run _ a1
    rw [run_append, deliveries_append, a3, b3, List.replicate_append_replicate]
    exact ⟨b1, fun d hd => (List.mem_append.1 hd).elim (a2 d) (b2 d), rfl⟩

theorem deliver_env (st : RngState) {n i : Nat} (hi : i < n) :
    deliver st n (.env i) = match st.pending i with | some k => ⟨.seed k, 0⟩ | none => st.gens (.env i) :=
  if_pos hi

theorem advance_origin (st : RngState) (g h : Gen) (k : Nat) :
    ((st.advance g k).gens h).origin = (st.gens h).origin := by
  show (if h = g then _ else _ : Stream).origin = _
  split
  · subst h; rfl
  · rfl

theorem SeededInv.advance {cfg : Cfg} {st : RngState} (h : SeededInv cfg st) (g : Gen) (k : Nat) :
    SeededInv cfg (st.advance g k) :=
  ⟨fun x hx => (advance_origin st g x k).trans (h.1 x hx), h.2⟩

theorem fineOp_steady {cfg : Cfg} {op : Op} (h : fineOp cfg op = true) : Steady cfg [op] 0 := by
  cases op with
  | draw g k =>
    exact ⟨(Bool.and_true _).trans h, rfl, fun st hst =>
      ⟨hst.advance g k, fun d hd => by cases List.mem_singleton.1 hd; exact ⟨h, hst.1 g h⟩, rfl⟩⟩
  | discard g k => exact ⟨rfl, rfl, fun st hst => ⟨hst.advance g k, (fun _ hd => nomatch hd), rfl⟩⟩
  | _ => cases h

theorem fine_steady {cfg : Cfg} {t : List Op} (h : t.all (fineOp cfg) = true) : Steady cfg t 0 := by
  induction t with
  | nil => exact .nil cfg
  | cons op t ih =>
    rw [List.all_cons, Bool.and_eq_true] at h
    exact (fineOp_steady h.1).append (ih h.2)

theorem learnStart_steady (cfg : Cfg) : Steady cfg (learnStartOps cfg) 0 := by
  unfold learnStartOps
  split
  · exact .nil cfg
  · next h =>
    refine ⟨rfl, Low.ext (fun g => ?_) fun i => rfl,
      fun st hst => ⟨⟨fun g hg => ?_, hst.2⟩, (fun _ hd => nomatch hd), rfl⟩⟩
    · show (if g = .noise then true else _) = _
      split
      · next e => rw [e]; exact (decide_eq_true (p := cfg.noise ≠ .none) h).symm
      · rfl
    · show (if g = .noise then _ else _ : Stream).origin = _
      split
      · subst g; rfl
      · exact hst.1 g hg

theorem envReset_steady (cfg : Cfg) : Steady cfg [.envReset cfg.nEnvs] 1 := by
  refine ⟨rfl, Low.ext (fun g => ?_) fun i => ?_, fun st hst =>
    ⟨⟨fun g hg => ?_, fun i hi => if_pos hi, fun i hi => if_pos hi⟩, (fun _ hd => nomatch hd), ?_⟩⟩
  · cases g with
    | env i =>
      show (if i < cfg.nEnvs then _ else _) = decide _
      split
      · next h =>
        show (match (if i < cfg.nEnvs then PendK.none else .unknown) with | .some => _ | .none => _ | .unknown => _) = _
        rw [if_pos h]; rfl
      · rfl
    | _ => rfl
  · show (if i < cfg.nEnvs then _ else _) = _
    split
    · next h => exact (if_pos h).symm
    · rfl
  · cases g with
    | env i =>
      have hi : i < cfg.nEnvs := of_decide_eq_true hg
      show (deliver st cfg.nEnvs (.env i)).origin = _
      rw [deliver_env st hi, hst.2.1 i hi]
      exact hst.1 _ hg
    | _ => exact hst.1 _ hg
  · show [(List.range cfg.nEnvs).map _] = [_]
    rw [List.map_congr_left (g := fun _ => (none, none)) fun i hi => by
      rw [hst.2.1 i (List.mem_range.1 hi), hst.2.2 i (List.mem_range.1 hi)], List.map_const', List.length_range]

/-- the events of `learn` are made of fine operations, `action_noise.reset()` and `env.reset()`; the index counts
the resets -/
theorem events_steady (cfg : Cfg) (evs : List Ev) : Steady cfg (eventsOps cfg evs) (resetCount evs) := by
  induction evs with
  | nil => exact .nil cfg
  | cons e es ih =>
    rw [resetCount_cons]
    refine .append ?_ ih
    cases e with
    | learnStart => exact learnStart_steady cfg
    | reset ds => exact (envReset_steady cfg).append (fine_steady (envDrawOps_fine cfg ds 0))
    | _ => exact fine_steady (segOps_fine cfg _ nofun nofun)

theorem tail_steady (cfg : Cfg) (ds : List Nat) (evs : List Ev) :
    Steady cfg (envDrawOps cfg 0 ds ++ eventsOps cfg evs) (0 + resetCount evs) :=
  (fine_steady (envDrawOps_fine cfg ds 0)).append (events_steady cfg evs)

theorem construct_low (cfg : Cfg) : traceOK Low.bot (construct cfg) = true ∧ lowRun Low.bot (construct cfg) =
    ⟨fun g => if g = .actSpace then true else if g = .torch then true else if g = .np then true else
      if g = .py then true else false, fun i => if i < cfg.nEnvs then .some else .unknown⟩ := by
  unfold construct; cases cfg.cnn <;> constructor <;> rfl

/-- the first `env.reset()`: with the seeds pending it marks exactly the sub-envs' generators -/
theorem envReset_first (cfg : Cfg) (L : Low) (hp : ∀ i, L.pend i = if i < cfg.nEnvs then .some else .unknown)
    (hg : ∀ g, L.gens g = match g with | .env _ => false | g => inFamily cfg g) :
    lowStep L (.envReset cfg.nEnvs) = famLow cfg := by
  refine Low.ext (fun g => ?_) fun i => ?_
  · cases g with
    | env i =>
      show (if i < cfg.nEnvs then (match L.pend i with | .some => true | .none => _ | .unknown => false) else _) = _
      rw [hp, hg]
      by_cases h : i < cfg.nEnvs
      · rw [if_pos h, if_pos h]; exact (decide_eq_true h).symm
      · rw [if_neg h]; exact (decide_eq_false h).symm
    | _ => exact hg _
  · show (if i < cfg.nEnvs then PendK.none else L.pend i) = if i < cfg.nEnvs then .none else .unknown
    rw [hp]
    split <;> rfl

theorem setup_low (cfg : Cfg) : traceOK Low.bot (setup cfg) = true ∧ lowRun Low.bot (setup cfg) = famLow cfg := by
  simp only [setup, traceOK_append, lowRun_append, construct_low cfg, Bool.true_and]
  unfold learnStartOps
  -- with or without `action_noise.reset()`: the noise state is marked iff the configuration has action noise
  split
  · next hn =>
    refine ⟨rfl, envReset_first cfg _ (fun _ => rfl) fun g => ?_⟩
    cases g with
    | noise => exact (decide_eq_false (p := cfg.noise ≠ .none) (not_not_intro hn)).symm
    | _ => rfl
  · next hn =>
    refine ⟨rfl, envReset_first cfg _ (fun _ => rfl) fun g => ?_⟩
    cases g with
    | noise => exact (decide_eq_true (p := cfg.noise ≠ .none) hn).symm
    | _ => rfl

theorem libTrace_ok (cfg : Cfg) (ds : List Nat) (evs : List Ev) :
    traceOK Low.bot (libTrace cfg ds evs) = true ∧ lowRun Low.bot (libTrace cfg ds evs) = famLow cfg := by
  rw [libTrace_eq, traceOK_append, lowRun_append, (setup_low cfg).1, (setup_low cfg).2]
  exact ⟨(tail_steady cfg ds evs).ok, (tail_steady cfg ds evs).low⟩

/-- `__init__` and the first `env.reset()` without `action_noise.reset()` is the set-up of the same configuration
without action noise: the noise state is never assigned -/
theorem noReset_noise_unmarked (cfg : Cfg) (ds : List Nat) :
    (lowRun Low.bot (construct cfg ++ segOps cfg (.reset ds))).gens .noise = false := by
  have h : construct cfg ++ segOps cfg (.reset ds) = setup { cfg with noise := .none } ++ envDrawOps cfg 0 ds := by
    simp only [setup, segOps, List.append_assoc]; rfl
  rw [h, lowRun_append, (setup_low _).2, lowRun_fine (envDrawOps_fine cfg ds 0)]
  rfl

theorem construct_run (cfg : Cfg) (st : RngState) :
    (∀ g, g = .py ∨ g = .np ∨ g = .torch ∨ g = .actSpace → ((run (construct cfg) st).1.gens g).origin = .seed cfg.seed) ∧
    (∀ i, i < cfg.nEnvs → (run (construct cfg) st).1.pending i = some (cfg.seed + i)) ∧
    (run (construct cfg) st).1.options = st.options ∧
    (run (construct cfg) st).2 = [⟨.torch, .seed cfg.seed, 0, cfg.initDraws⟩] ∧ deliveries (construct cfg) st = [] := by
  unfold construct
  cases st
  cases cfg.cnn <;> refine ⟨?_, fun i hi => if_pos hi, by rfl, by rfl, by rfl⟩ <;>
    rintro g (rfl | rfl | rfl | rfl) <;> rfl

theorem learnStart_run (cfg : Cfg) (st : RngState) :
    (∀ g, g ≠ .noise → (run (learnStartOps cfg) st).1.gens g = st.gens g) ∧
    (inFamily cfg .noise = true → ((run (learnStartOps cfg) st).1.gens .noise).origin = .const) ∧
    (run (learnStartOps cfg) st).1.pending = st.pending ∧ (run (learnStartOps cfg) st).1.options = st.options ∧
    (run (learnStartOps cfg) st).2 = [] ∧ deliveries (learnStartOps cfg) st = [] := by
  unfold learnStartOps
  split
  · next h => exact ⟨fun _ _ => rfl, fun hn => absurd h (of_decide_eq_true hn), rfl, rfl, rfl, rfl⟩
  · exact ⟨fun g hg => if_neg hg, fun _ => rfl, rfl, rfl, rfl, rfl⟩

theorem setup_run (cfg : Cfg) (st : RngState) :
    SeededInv cfg (run (setup cfg) st).1 ∧ (∀ d ∈ (run (setup cfg) st).2, FromSeed cfg d) ∧
    deliveries (setup cfg) st = [(List.range cfg.nEnvs).map fun i => (some (cfg.seed + i), st.options i)] := by
  obtain ⟨cGlob, cPend, cOpts, cOut, cDeliv⟩ := construct_run cfg st
  obtain ⟨lOther, lNoise, lPend, lOpts, lOut, lDeliv⟩ := learnStart_run cfg (run (construct cfg) st).1
  simp only [setup, run_append, deliveries_append, cOut, cDeliv, lOut, lDeliv, List.append_nil, List.nil_append]
  refine ⟨⟨fun g hg => ?_, fun i hi => if_pos hi, fun i hi => if_pos hi⟩, ?_, ?_⟩
  · cases g with
    | env i =>
      have hi : i < cfg.nEnvs := of_decide_eq_true hg
      show (deliver _ cfg.nEnvs (.env i)).origin = _
      rw [deliver_env _ hi, lPend, cPend i hi]
      rfl
    | noise => exact lNoise hg
    | py | np | torch | actSpace => exact (congrArg Stream.origin (lOther _ (by decide))).trans (cGlob _ (by decide))
    | _ => cases hg
  · intro d hd
    cases List.mem_singleton.1 hd
    exact ⟨rfl, rfl⟩
  · show [(List.range cfg.nEnvs).map fun i => (_, _)] = _
    rw [lPend, lOpts, cOpts]
    exact congrArg (fun x => [x]) (List.map_congr_left fun i hi => by rw [cPend i (List.mem_range.1 hi)])

theorem libTrace_run (cfg : Cfg) (ds : List Nat) (evs : List Ev) (st : RngState) :
    SeededInv cfg (run (libTrace cfg ds evs) st).1 ∧
    (∀ d, d ∈ (run (libTrace cfg ds evs) st).2 → FromSeed cfg d) ∧
    deliveries (libTrace cfg ds evs) st =
      (List.range cfg.nEnvs).map (fun i => (some (cfg.seed + i), st.options i)) ::
        List.replicate (resetCount evs) (List.replicate cfg.nEnvs (none, none)) := by
  obtain ⟨s1, s2, s3⟩ := setup_run cfg st
  obtain ⟨e1, e2, e3⟩ := (tail_steady cfg ds evs).run _ s1
  rw [libTrace_eq, run_append, deliveries_append, s3, e3, Nat.zero_add]
  exact ⟨e1, fun d hd => (List.mem_append.1 hd).elim (s2 d) (e2 d), rfl⟩

end SB3Verif.Lemmas.Seeding
