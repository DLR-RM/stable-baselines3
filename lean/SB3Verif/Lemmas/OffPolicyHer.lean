/-
End-to-end composition of the off-policy collection model (C04, `SB3Verif/Model/OffPolicy.lean`, read-only
here) with the HER replay-buffer model (C16, `SB3Verif/Model/Her.lean`): the adapter that turns the rows the
collection hands to `replay_buffer.add` into the `Her.Op.add` operations, and the lemmas that identify entry `a`
of column `e`'s ghost history with sub-environment `e`'s own `a`-th transition — in particular the ghost flag
`last` (the episode boundaries of the HER segments) with the environment's own `terminated ∨ truncated`.

The HER model's payloads are opaque tags (`Nat`); the collection model's are vectors / scalars over `α`. The
adapter is generic in an `HTagging`: any naming of the three parts of a goal observation (`observation`,
`achieved_goal`, `desired_goal`, all read off the same flat observation vector), of stored actions and of
rewards. Every statement holds for every tagging; with an injective tagging the tag determines the value.
-/
import SB3Verif.Lemmas.OffPolicy
import SB3Verif.Lemmas.Her

namespace SB3Verif.Lemmas.OffPolicyHer

open SB3Verif.OffPolicy SB3Verif.Lemmas.OffPolicy SB3Verif.Her

/-- how the parts of a goal observation, stored actions and rewards are named by the HER model's tags -/
structure HTagging (α : Type) where
  obs : List α → Nat
  ach : List α → Nat
  dg : List α → Nat
  act : List α → Nat
  rew : α → Int

section

variable {α : Type} [Add α] [Sub α] [Mul α] [Div α] [Neg α] [One α] [LT α] [DecidableLT α]

/-- column `e` of one `replay_buffer.add` call, as the HER model's `Trans` -/
def toTrans (T : HTagging α) (r : Row α) (e : Nat) : Trans :=
  { obs := T.obs (r.obs.getD e []), ach := T.ach (r.obs.getD e []), dg := T.dg (r.obs.getD e []),
    act := T.act (r.action.getD e []),
    nobs := T.obs (r.nextObs.getD e []), nach := T.ach (r.nextObs.getD e []), ndg := T.dg (r.nextObs.getD e []),
    rew := ((r.reward[e]?).map T.rew).getD 0, done := r.done.getD e false, timeout := r.timeout.getD e false,
    info := 0 }

/-- one `replay_buffer.add` call as a HER row (one `Trans` per entry of `dones`) -/
def toRow (T : HTagging α) (r : Row α) : List Trans := (List.range r.done.length).map (toTrans T r)

/-- the collection's add log as a HER history -/
def toOps (T : HTagging α) (rows : List (Row α)) : List Op := rows.map fun r => Op.add (toRow T r)

/-- what the HER buffer *should* store for the sub-environment's own transition `t` kept with action `b`:
`done = terminated ∨ truncated`, stored timeout `= handle_timeout_termination ∧ truncated ∧ ¬terminated` -/
def envTrans (T : HTagging α) (hTT : Bool) (post : List α → List α) (t : Transition α) (b : List α) : Trans :=
  { obs := T.obs (post t.obs), ach := T.ach (post t.obs), dg := T.dg (post t.obs), act := T.act b,
    nobs := T.obs (post t.next), nach := T.ach (post t.next), ndg := T.dg (post t.next), rew := T.rew t.rew,
    done := t.term || t.trunc, timeout := hTT && (t.trunc && !t.term), info := 0 }

/-- sub-environment `e`'s own record of vectorised step `a`, and the action stored next to the one it received -/
def EnvTransAt (s : Sys α) (e a : Nat) (t : Transition α) (b : List α) : Prop :=
  ∃ ts o, s.w.log[a]? = some ts ∧ ts[e]? = some t ∧ s.st.trace[a]? = some o ∧ o.action[e]? = some t.action ∧
    b = o.row.action.getD e []

/-- did sub-environment `e` end an episode (`terminated ∨ truncated`) at vectorised step `k`? -/
def envDone (log : List (List (Transition α))) (e k : Nat) : Bool :=
  match log[k]? with
  | some ts => (match ts[e]? with
    | some t => t.term || t.trunc
    | none => false)
  | none => false

/-- the environment episode containing step `a` of sub-environment `e` ends at step `ee` (inside the run):
no `terminated ∨ truncated` of that env in `[a, ee)`, one at `ee` -/
def EnvEndsAt (log : List (List (Transition α))) (e a ee : Nat) : Prop :=
  a ≤ ee ∧ ee < log.length ∧ envDone log e ee = true ∧ ∀ k, a ≤ k → k < ee → envDone log e k = false

theorem ghost_adds (hTT : Bool) (cap : Nat) (ts : List Trans) :
    (runG hTT cap (ts.map COp.add)).2 = ts.map (fun t => Rec.mk (SB3Verif.Her.Lemmas.stored hTT t) t.done) := by
  suffices ∀ cg : Col × List Rec, ((ts.map COp.add).foldl (stepG hTT) cg).2 =
      cg.2 ++ ts.map (fun t => Rec.mk (SB3Verif.Her.Lemmas.stored hTT t) t.done) from this _
  induction ts with
  | nil => simp
  | cons t rest ih =>
    intro cg
    simp only [List.map_cons, List.foldl_cons]
    rw [ih]
    simp [stepG, ghostStep, SB3Verif.Her.Lemmas.stored]

omit [Add α] [Sub α] [Mul α] [Div α] [Neg α] [One α] [LT α] [DecidableLT α] in
theorem ghostOf_toOps (T : HTagging α) (hTT : Bool) (cap : Nat) (rows : List (Row α)) (e : Nat) :
    ghostOf hTT cap (toOps T rows) e =
      rows.map (fun r => Rec.mk (SB3Verif.Her.Lemmas.stored hTT ((toRow T r).getD e default))
        ((toRow T r).getD e default).done) := by
  unfold ghostOf toOps
  have : (rows.map fun r => Op.add (toRow T r)).map (Op.proj e) =
      (rows.map fun r => (toRow T r).getD e default).map COp.add := by
    simp [List.map_map, Op.proj, Function.comp_def]
  rw [this, ghost_adds, List.map_map]
  rfl

/-- **The cell lemma**: in a state satisfying the collection invariant, entry `a` of column `e`'s ghost history is
sub-environment `e`'s own `a`-th transition (as the HER buffer stores it), and its `last` flag is the
environment's own `terminated ∨ truncated`. -/
theorem ghost_cell (T : HTagging α) (hTT : Bool) (cap : Nat) (cfg : Cfg α) (s : Sys α) (hi : Inv cfg s) (a e : Nat)
    (ha : a < s.w.log.length) (he : e < cfg.nEnvs) :
    ∃ t b, EnvTransAt s e a t b ∧
      (ghostOf hTT cap (toOps T s.st.buffer) e).getD a default =
        Rec.mk (envTrans T hTT cfg.post t b) (t.term || t.trunc) ∧
      envDone s.w.log e a = (t.term || t.trunc) := by
  obtain ⟨ts, t, o, hts, ht, ho, hact, hd, h1, h2, h3, h4, h5⟩ := hi.cell ha he
  refine ⟨t, o.row.action.getD e [], ⟨ts, o, hts, ht, ho, hact, rfl⟩, ?_, ?_⟩
  · have hcell : (toRow T o.row).getD e default = toTrans T o.row e := by
      rw [toRow, List.getD_eq_getElem?_getD, List.getElem?_map, List.getElem?_range (hd ▸ he)]
      rfl
    rw [ghostOf_toOps, St.buffer, List.map_map, List.getD_eq_getElem?_getD, List.getElem?_map, ho, Option.map_some,
      Option.getD_some]
    simp only [Function.comp_apply, hcell]
    simp only [toTrans, envTrans, SB3Verif.Her.Lemmas.stored, List.getD_eq_getElem?_getD, h1, h2, h3, h4, h5,
      Option.map_some, Option.getD_some]
  · simp only [envDone, hts, ht]

theorem ghost_length (T : HTagging α) (hTT : Bool) (cap : Nat) (cfg : Cfg α) (s : Sys α) (hi : Inv cfg s) (e : Nat) :
    (ghostOf hTT cap (toOps T s.st.buffer) e).length = s.w.log.length := by
  rw [ghostOf_toOps, List.length_map, St.buffer, List.length_map, hi.trace_length]

/-- **Episode boundaries coincide**: the HER segments' notion "the episode of add `a` ends at add `ee`" on
column `e`'s ghost history is the environment's own: sub-environment `e`'s first `terminated ∨ truncated` at or
after step `a` is at step `ee`. -/
theorem endsAt_iff_env (T : HTagging α) (hTT : Bool) (cap : Nat) (cfg : Cfg α) (s : Sys α) (hi : Inv cfg s)
    (e a ee : Nat) (he : e < cfg.nEnvs) :
    endsAt (ghostOf hTT cap (toOps T s.st.buffer) e) a ee ↔ EnvEndsAt s.w.log e a ee := by
  have hl := ghost_length T hTT cap cfg s hi e
  have hflag : ∀ k, k < s.w.log.length →
      ((ghostOf hTT cap (toOps T s.st.buffer) e).getD k default).last = envDone s.w.log e k := by
    intro k hk
    obtain ⟨t, b, -, h2, h3⟩ := ghost_cell T hTT cap cfg s hi k e hk he
    rw [h2, h3]
  unfold endsAt EnvEndsAt
  rw [hl]
  -- the two definitions read the same flags, all of them below `ee < length`
  refine and_congr_right fun _ => and_congr_right fun h2 => and_congr (by rw [hflag ee h2]) ?_
  exact forall_congr' fun k => imp_congr_right fun _ => imp_congr_right fun hk => by rw [hflag k (hk.trans h2)]

/-- an entry of column `e`'s ghost history that is still in the ring and whose HER episode ends at add `ee`, read in
the environment's terms -/
theorem ghost_entry (T : HTagging α) (hTT : Bool) (cap : Nat) (cfg : Cfg α) (s : Sys α) (hi : Inv cfg s)
    (e a ee : Nat) (he : e < cfg.nEnvs) (ha : a < (ghostOf hTT cap (toOps T s.st.buffer) e).length)
    (hl : (ghostOf hTT cap (toOps T s.st.buffer) e).length ≤ a + cap)
    (hend : endsAt (ghostOf hTT cap (toOps T s.st.buffer) e) a ee) :
    ∃ t b, EnvTransAt s e a t b ∧ s.w.log.length ≤ a + cap ∧ EnvEndsAt s.w.log e a ee ∧
      ((ghostOf hTT cap (toOps T s.st.buffer) e).getD a default).t = envTrans T hTT cfg.post t b := by
  rw [ghost_length T hTT cap cfg s hi e] at ha hl
  obtain ⟨t, b, ht, hc, -⟩ := ghost_cell T hTT cap cfg s hi a e ha he
  exact ⟨t, b, ht, hl, (endsAt_iff_env T hTT cap cfg s hi e a ee he).mp hend, by rw [hc]⟩

end

/-- goal observations are vectors `[observation, achieved_goal, desired_goal]` of integers; tags are the values -/
def exHTag : HTagging ℚ :=
  ⟨fun o => (o.getD 0 0).num.natAbs, fun o => (o.getD 1 0).num.natAbs, fun o => (o.getD 2 0).num.natAbs,
   fun a => (a.headD 0).num.natAbs, fun r => r.num⟩

/-- two envs, discrete actions, no `VecNormalize`, `train_freq = 1` step, one `learn()` call of 5 vectorised steps.
Env 0: an episode of 2 steps (terminated at step 1), an episode of 2 steps (terminated at step 3), an open step.
Env 1: one episode of 4 steps — longer than the HER ring of 3 — truncated at step 3, then an open step. -/
def herCfg : Cfg ℚ := ⟨2, .discrete, 0, 1, false, false, false, id⟩
def herCalls : List (Call ℚ) :=
  [ ⟨true, 10, [[0, 1, 9], [100, 101, 909]], none,
      [ ⟨[[1], [0]], none, [⟨[10, 11, 9], 1, false, false, [], none⟩, ⟨[110, 111, 909], 1, false, false, [], none⟩], none⟩,
        ⟨[[0], [1]], none, [⟨[20, 21, 9], 2, true, false, [30, 31, 8], none⟩, ⟨[120, 121, 909], 2, false, false, [], none⟩], none⟩,
        ⟨[[1], [1]], none, [⟨[40, 41, 8], 3, false, false, [], none⟩, ⟨[130, 131, 909], 3, false, false, [], none⟩], none⟩,
        ⟨[[0], [0]], none, [⟨[50, 51, 8], 4, true, false, [60, 61, 7], none⟩, ⟨[140, 141, 909], 4, false, true, [150, 151, 808], none⟩], none⟩,
        ⟨[[1], [0]], none, [⟨[70, 71, 7], 5, false, false, [], none⟩, ⟨[160, 161, 808], 5, false, false, [], none⟩], none⟩ ]⟩ ]

/-- the HER buffer fed by that run: `buffer_size = 7`, two envs: ring `7 // 2 = 3 < 5` adds — it wraps -/
def herBuf : Her := Her.run (ringSize 7 2) 2 true (toOps exHTag (run herCfg herCalls).st.buffer)

end SB3Verif.Lemmas.OffPolicyHer
