/-
Helper lemmas for C16 (`SB3Verif/Props/C16.lean`): `setRange`, and the inductive invariant `Inv` that ties a column
of the HER buffer (`SB3Verif.Her.Col`) to its ghost history, proved for every operation sequence (`inv_runG`).
`add` and `truncate` are assembled from three steps that each preserve `InvAt` (the invariant with the start of the
open episode as a parameter): `write`, marking the newest add as an episode end, and `Col.closeEpisode`.
Add number `a` sits in slot `a % cap` (`Lemmas/RingIndex.lean`). Core Lean only.
-/
import SB3Verif.Model.Her
import SB3Verif.Lemmas.RingIndex
namespace SB3Verif.Her.Lemmas
open SB3Verif.Her SB3Verif.RingIndex

theorem setRange_length (l : List Nat) (start cap v cnt : Nat) : (setRange l start cap v cnt).length = l.length := by
  induction cnt with
  | zero => rfl
  | succ k ih => simp [setRange, ih]

theorem setRange_hit {l : List Nat} {X cap v cnt k : Nat} (d : Nat) (hcap : 0 < cap) (hk : k < cnt)
    (hlen : l.length = cap) : (setRange l (X % cap) cap v cnt).getD ((X + k) % cap) d = v := by
  induction cnt with
  | zero => exact absurd hk (Nat.not_lt_zero k)
  | succ n ih =>
    simp only [setRange, Nat.mod_add_mod]
    by_cases e : (X + n) % cap = (X + k) % cap
    · rw [e]; exact getD_set_self (by rw [setRange_length, hlen]; exact Nat.mod_lt _ hcap) v
    · rw [getD_set_ne e]
      exact ih (Nat.lt_of_le_of_ne (Nat.le_of_lt_succ hk) (fun h => e (h ▸ rfl)))

theorem setRange_miss {l : List Nat} {X cap v cnt s : Nat} (d : Nat) (h : ∀ k, k < cnt → (X + k) % cap ≠ s) :
    (setRange l (X % cap) cap v cnt).getD s d = l.getD s d := by
  induction cnt with
  | zero => rfl
  | succ k ih =>
    simp only [setRange, Nat.mod_add_mod]
    rw [getD_set_ne (h k (Nat.lt_succ_self k))]
    exact ih (fun k' hk' => h k' (Nat.lt_succ_of_lt hk'))

theorem setRange_zero (l : List Nat) (start cap cnt s : Nat) (h : l.getD s 0 = 0) :
    (setRange l start cap 0 cnt).getD s 0 = 0 := by
  induction cnt with
  | zero => exact h
  | succ k ih =>
    simp only [setRange]
    by_cases e : (start + k) % cap = s
    · simp [List.getD_eq_getElem?_getD, e, List.getElem?_set]
      split <;> rfl
    · rw [getD_set_ne e]; exact ih

/-- The segment a valid slot `s` belongs to, in terms of the global add counter: `f` is the add number stored in
the first slot of the segment; none of its adds has been overwritten. -/
def SegAt (cap : Nat) (eS eL : List Nat) (g : List Rec) (s : Nat) : Prop :=
  ∃ f j, j < eL.getD s 0 ∧ s = (f + j) % cap ∧ f + eL.getD s 0 ≤ g.length ∧ g.length ≤ f + cap ∧
    ∀ k, k < eL.getD s 0 → eL.getD ((f + k) % cap) 0 = eL.getD s 0 ∧ eS.getD ((f + k) % cap) 0 = f % cap ∧
      ((g.getD (f + k) default).last = true ↔ k + 1 = eL.getD s 0)

/-- Storing add number `g.length` in a free slot touches no slot of a segment: a segment that began a lap ago
would own that slot. -/
theorem seg_write {cap : Nat} {eS eL : List Nat} {g : List Rec} {s : Nat} (r : Rec) (v : Nat)
    (hz : eL.getD (g.length % cap) 0 = 0) (hv : 0 < eL.getD s 0) (h : SegAt cap eS eL g s) :
    SegAt cap (eS.set (g.length % cap) v) eL (g ++ [r]) s := by
  obtain ⟨f, j, hj, hsj, hf, hw, hall⟩ := h
  have hw1 : g.length < f + cap := Nat.lt_of_le_of_ne hw fun e => by
    have := (hall 0 hv).1
    rw [Nat.add_zero, ← Nat.add_mod_right, ← e, hz] at this
    exact Nat.ne_of_lt hv this
  rw [SegAt, List.length_append]
  refine ⟨f, j, hj, hsj, Nat.le_succ_of_le hf, hw1, fun k hk => ?_⟩
  have h3 := hall k hk
  have hlt : f + k < g.length := Nat.lt_of_lt_of_le (Nat.add_lt_add_left hk f) hf
  have hne : g.length % cap ≠ (f + k) % cap :=
    (mod_ne_of_lt hlt (Nat.lt_of_lt_of_le hw1 (Nat.add_le_add_right (Nat.le_add_right f k) cap))).symm
  refine ⟨h3.1, ?_, ?_⟩
  · rw [getD_set_ne hne]; exact h3.2.1
  · rw [getD_concat_lt _ hlt]; exact h3.2.2

/-- Marking the newest add as an episode end keeps every segment: if it lies in one, it is its last add. -/
theorem seg_setLast {cap : Nat} {eS eL : List Nat} {g : List Rec} {s n : Nat} {r' : Rec}
    (hn : ∀ a, a < g.length → a ≤ n) (hr : r'.last = true) (h : SegAt cap eS eL g s) :
    SegAt cap eS eL (g.set n r') s := by
  obtain ⟨f, j, hj, hsj, hf, hw, hall⟩ := h
  rw [SegAt, List.length_set]
  refine ⟨f, j, hj, hsj, hf, hw, fun k hk => ?_⟩
  have h3 := hall k hk
  refine ⟨h3.1, h3.2.1, ?_⟩
  have hlt : f + k < g.length := Nat.lt_of_lt_of_le (Nat.add_lt_add_left hk f) hf
  by_cases e : n = f + k
  · rw [← e, getD_set_self (e ▸ hlt), hr]
    have : k + 1 = eL.getD s 0 := by
      rcases Nat.lt_or_ge (k + 1) (eL.getD s 0) with h4 | h4
      · exact absurd (e ▸ hn (f + (k + 1)) (Nat.lt_of_lt_of_le (Nat.add_lt_add_left h4 f) hf)) (Nat.not_succ_le_self _)
      · exact Nat.le_antisymm hk h4
    exact ⟨fun _ => this, fun _ => rfl⟩
  · rw [getD_set_ne e]; exact h3.2.2

/-- `_compute_episode_length`: the `d` adds from `C` on, all in free slots that point to `C`, become a segment
(none if `d` is a full lap). -/
theorem seg_close {cap : Nat} {eS eL : List Nat} {g : List Rec} {C d : Nat} (hcap : 0 < cap) (hlen : eL.length = cap)
    (hA : g.length = C + d) (hd : d ≤ cap)
    (hcur : ∀ a, C ≤ a → a < g.length → eL.getD (a % cap) 0 = 0 ∧ eS.getD (a % cap) 0 = C % cap ∧
      (g.getD a default).last = decide (a + 1 = g.length))
    (hseg : ∀ s, 0 < eL.getD s 0 → SegAt cap eS eL g s) (s : Nat)
    (hpos : 0 < (setRange eL (C % cap) cap (d % cap) (d % cap)).getD s 0) :
    SegAt cap eS (setRange eL (C % cap) cap (d % cap) (d % cap)) g s := by
  rcases Nat.lt_or_ge d cap with hdc | hdc
  · rw [Nat.mod_eq_of_lt hdc] at hpos ⊢
    have hhit : ∀ k, k < d → (setRange eL (C % cap) cap d d).getD ((C + k) % cap) 0 = d :=
      fun k hk => setRange_hit _ hcap hk hlen
    have hin : ∀ k, k < d → C ≤ C + k ∧ C + k < g.length := fun k hk =>
      ⟨Nat.le_add_right C k, hA ▸ Nat.add_lt_add_left hk C⟩
    rcases Classical.em (∃ k, k < d ∧ (C + k) % cap = s) with ⟨k, hk, rfl⟩ | hm
    · -- a slot of the episode that has just been closed
      unfold SegAt
      rw [hhit k hk]
      refine ⟨C, k, hk, rfl, Nat.le_of_eq hA.symm, hA ▸ Nat.add_le_add_left hd C, fun k' hk' => ?_⟩
      have h3 := hcur (C + k') (hin k' hk').1 (hin k' hk').2
      refine ⟨hhit k' hk', h3.2.1, ?_⟩
      rw [h3.2.2, hA, decide_eq_true_iff, Nat.add_assoc, Nat.add_left_cancel_iff]
    · have hmiss : ∀ s', (∀ k, k < d → (C + k) % cap ≠ s') →
          (setRange eL (C % cap) cap d d).getD s' 0 = eL.getD s' 0 :=
        fun s' h => setRange_miss _ h
      have hsame := hmiss s (fun k hk e => hm ⟨k, hk, e⟩)
      rw [hsame] at hpos
      unfold SegAt
      rw [hsame]
      obtain ⟨f, j, hj, hsj, hf, hw, hall⟩ := hseg s hpos
      refine ⟨f, j, hj, hsj, hf, hw, fun k hk => ⟨?_, (hall k hk).2.1, (hall k hk).2.2⟩⟩
      rw [hmiss]
      · exact (hall k hk).1
      · -- the slots of the open episode are free, those of a segment are not
        intro k0 hk0 e
        have h4 := (hcur (C + k0) (hin k0 hk0).1 (hin k0 hk0).2).1
        rw [e, (hall k hk).1] at h4
        exact absurd h4 (Nat.ne_of_gt hpos)
  · obtain rfl : d = cap := Nat.le_antisymm hd hdc
    rw [Nat.mod_self] at hpos ⊢
    exact hseg s hpos

/-- The invariant tying a column to its ghost history `g` (add number `a` sits in slot `a % cap`).
`C` is the add number at which the episode under construction starts, as far as the ring remembers:
`_current_ep_start = C % cap`, and the adds from `C` on occupy free slots that point to `C`. With `fin` the
newest add is flagged as the end of that episode and `_compute_episode_length` is still to run. -/
structure InvAt (cap : Nat) (c : Col) (g : List Rec) (C : Nat) (fin : Bool) : Prop where
  hcap : 0 < cap
  ccap : c.cap = cap
  lenS : c.epStart.length = cap
  lenL : c.epLen.length = cap
  lenD : c.slots.length = cap
  hpos : c.pos = g.length % cap
  live : Win 0 c.slots default cap g.length fun a => (g.getD a default).t
  start_le : C ≤ g.length
  le_start_cap : g.length ≤ C + cap
  hcur : c.cur = C % cap
  openEp : ∀ a, C ≤ a → a < g.length → c.epLen.getD (a % cap) 0 = 0 ∧ c.epStart.getD (a % cap) 0 = C % cap ∧
    (g.getD a default).last = (fin && decide (a + 1 = g.length))
  seg : ∀ s, 0 < c.epLen.getD s 0 → SegAt cap c.epStart c.epLen g s

/-- Relates two add numbers: the episode under construction, which the ring counts from add `C`, really started
at add `F`, a whole number of laps before `C` (the adds in between have been overwritten). -/
def RealStart (cap : Nat) (g : List Rec) (C F : Nat) : Prop :=
  (∃ k, C = F + k * cap) ∧ (F = 0 ∨ (g.getD (F - 1) default).last = true) ∧
    ∀ a, F ≤ a → a < C → (g.getD a default).last = false

theorem RealStart.new {cap : Nat} {g : List Rec} {A : Nat} (h : A = 0 ∨ (g.getD (A - 1) default).last = true) :
    RealStart cap g A A :=
  ⟨⟨0, by rw [Nat.zero_mul]; rfl⟩, h, fun a h1 h2 => absurd h1 (Nat.not_le_of_lt h2)⟩

theorem RealStart.append {cap : Nat} {g : List Rec} {C F : Nat} (h : RealStart cap g C F) (hC : C ≤ g.length)
    (r : Rec) : RealStart cap (g ++ [r]) C F := by
  refine ⟨h.1, h.2.1.imp_right (fun h1 => ?_), fun a h1 h2 => ?_⟩
  · rcases Nat.lt_or_ge (F - 1) g.length with h2 | h2
    · rw [getD_concat_lt _ h2]; exact h1
    · rw [List.getD_eq_getElem?_getD, List.getElem?_eq_none h2] at h1; exact absurd h1 Bool.false_ne_true
  · rw [getD_concat_lt _ (Nat.lt_of_lt_of_le h2 hC)]; exact h.2.2 a h1 h2

/-- Between two calls the open episode is shorter than the ring (`C` is moved up by a lap when it is not). -/
def Inv (cap : Nat) (c : Col) (g : List Rec) : Prop :=
  ∃ C F, g.length < C + cap ∧ InvAt cap c g C false ∧ RealStart cap g C F

theorem inv_init (cap : Nat) (hcap : 0 < cap) : Inv cap (Col.init cap) [] :=
  ⟨0, 0, Nat.lt_of_lt_of_eq hcap (Nat.zero_add cap).symm,
    { hcap := hcap, ccap := rfl, lenS := List.length_replicate, lenL := List.length_replicate,
      lenD := List.length_replicate, hpos := (Nat.zero_mod cap).symm, live := Win.nil _ _ _ _ _,
      start_le := Nat.le_refl _, le_start_cap := Nat.zero_le _, hcur := (Nat.zero_mod cap).symm,
      openEp := fun a _ h => absurd h (Nat.not_lt_zero a)
      seg := fun s h => by
        simp only [Col.init, List.getD_eq_getElem?_getD, List.getElem?_replicate] at h
        split at h <;> exact absurd h (Nat.lt_irrefl 0) },
    RealStart.new (Or.inl rfl)⟩

theorem InvAt.inv {cap : Nat} {c : Col} {g : List Rec} {C F : Nat} (h : InvAt cap c g C false)
    (hF : RealStart cap g C F) : Inv cap c g := by
  rcases Nat.lt_or_ge g.length (C + cap) with hlt | hge
  · exact ⟨C, F, hlt, h, hF⟩
  · -- the open episode fills the ring: from now on it is counted from this lap
    have e : g.length = C + cap := Nat.le_antisymm h.le_start_cap hge
    obtain ⟨⟨k, hk⟩, hF0, hFl⟩ := hF
    refine ⟨g.length, F, Nat.lt_add_of_pos_right h.hcap,
      { h with start_le := Nat.le_refl _, le_start_cap := Nat.le_add_right _ _, hcur := by rw [h.hcur, e, Nat.add_mod_right],
               openEp := fun a h1 h2 => absurd h1 (Nat.not_le_of_lt h2) },
      ⟨k + 1, by rw [e, hk, Nat.succ_mul, Nat.add_assoc]⟩, hF0, fun a h1 h2 => ?_⟩
    rcases Nat.lt_or_ge a C with h3 | h3
    · exact hFl a h1 h3
    · exact (h.openEp a h3 h2).2.2

/-- `ep_length` after the first loop of `add` -/
def addEpLen1 (c : Col) : List Nat :=
  if 0 < c.epLen.getD c.pos 0 then
    setRange c.epLen c.pos c.cap 0 (c.epStart.getD c.pos 0 + c.epLen.getD c.pos 0 - c.pos)
  else c.epLen

theorem addEpLen1_zero (c : Col) (s : Nat) (h : c.epLen.getD s 0 = 0) : (addEpLen1 c).getD s 0 = 0 := by
  unfold addEpLen1; split
  · exact setRange_zero _ _ _ _ _ h
  · exact h

/-- First loop of `add`: the slot about to be written is either free or the first slot of the oldest stored
segment, which is then erased whole. -/
theorem seg_invalidate {cap : Nat} {c : Col} {g : List Rec} {C : Nat} {fin : Bool} (h : InvAt cap c g C fin) :
    (addEpLen1 c).length = cap ∧ (addEpLen1 c).getD (g.length % cap) 0 = 0 ∧
      ∀ s, 0 < (addEpLen1 c).getD s 0 → SegAt cap c.epStart (addEpLen1 c) g s := by
  have hcap := h.hcap
  unfold addEpLen1
  rw [h.hpos, h.ccap]
  split
  · next h0 =>
    -- the slot lies in a stored segment `f0, …`: by the window bounds it holds add `f0`, stored a lap ago
    obtain ⟨f0, j0, hj0, hs0, hf0, hw0, hall0⟩ := h.seg _ h0
    have hA : g.length = f0 + j0 + cap :=
      eq_of_mod_eq (hs0.trans (Nat.add_mod_right _ _).symm)
        (Nat.le_trans hw0 (Nat.add_le_add_right (Nat.le_add_right f0 j0) cap))
        (Nat.add_lt_add_right (Nat.lt_of_lt_of_le (Nat.add_lt_add_left hj0 f0) hf0) cap)
    obtain rfl : j0 = 0 :=
      Nat.le_zero.mp (Nat.le_of_add_le_add_left (Nat.le_of_add_le_add_right (hA ▸ hw0) : f0 + j0 ≤ f0 + 0))
    rw [Nat.add_zero] at hA hs0
    rw [hs0] at h0 hall0 ⊢
    -- so `ep_start` there is the slot itself, and the range erased is the whole segment
    have hb : c.epStart.getD (f0 % cap) 0 = f0 % cap := (hall0 0 h0).2.1
    rw [hb, Nat.add_sub_cancel_left]
    generalize hE : setRange c.epLen (f0 % cap) cap 0 (c.epLen.getD (f0 % cap) 0) = eL1
    have hhit : ∀ k, k < c.epLen.getD (f0 % cap) 0 → eL1.getD ((f0 + k) % cap) 0 = 0 :=
      fun k hk => hE ▸ setRange_hit 0 hcap hk h.lenL
    have hmiss : ∀ s, (∀ k, k < c.epLen.getD (f0 % cap) 0 → (f0 + k) % cap ≠ s) → eL1.getD s 0 = c.epLen.getD s 0 :=
      fun s hs => hE ▸ setRange_miss 0 hs
    refine ⟨by rw [← hE, setRange_length]; exact h.lenL, hhit 0 h0, fun s hpos => ?_⟩
    rcases Classical.em (∃ k, k < c.epLen.getD (f0 % cap) 0 ∧ (f0 + k) % cap = s) with ⟨k, hk, rfl⟩ | hm
    · rw [hhit k hk] at hpos; exact absurd hpos (Nat.lt_irrefl 0)
    · have hsame := hmiss s (fun k hk e => hm ⟨k, hk, e⟩)
      rw [hsame] at hpos
      unfold SegAt
      rw [hsame]
      obtain ⟨f, j, hj, hsj, hf, hw, hall⟩ := h.seg s hpos
      -- two segments of the window that share a slot are the same segment
      have hdisj : ∀ k', k' < c.epLen.getD s 0 → ∀ k, k < c.epLen.getD (f0 % cap) 0 →
          (f0 + k) % cap ≠ (f + k') % cap := by
        intro k' hk' k hk e
        have hff : f0 % cap = f % cap := by rw [← (hall0 k hk).2.1, e, (hall k' hk').2.1]
        obtain rfl : f0 = f := mod_inj hff
          (Nat.lt_of_le_of_lt (Nat.le_of_add_le_add_right (hA ▸ hw)) (Nat.lt_add_of_pos_right hcap))
          (hA ▸ Nat.lt_of_lt_of_le (Nat.lt_add_of_pos_right hpos) hf)
        have hL : c.epLen.getD s 0 = c.epLen.getD (f0 % cap) 0 := by rw [← (hall 0 hpos).1, (hall0 0 h0).1]
        exact hm ⟨j, hL ▸ hj, hsj.symm⟩
      refine ⟨f, j, hj, hsj, hf, hw, fun k hk => ⟨?_, (hall k hk).2.1, (hall k hk).2.2⟩⟩
      rw [hmiss _ (hdisj k hk)]; exact (hall k hk).1
  · next h0 => exact ⟨h.lenL, Nat.eq_zero_of_not_pos h0, h.seg⟩

def stored (hTT : Bool) (t : Trans) : Trans := { t with timeout := hTT && t.timeout }

/-- `add` up to and including the pointer advance; on `done`, `_compute_episode_length` follows. -/
def write (hTT : Bool) (c : Col) (t : Trans) : Col :=
  { c with pos := if c.pos + 1 = c.cap then 0 else c.pos + 1, full := c.full || decide (c.pos + 1 = c.cap),
           epStart := c.epStart.set c.pos c.cur, epLen := addEpLen1 c, slots := c.slots.set c.pos (stored hTT t) }

theorem invalidate_eq (c : Col) : c.invalidate = { c with epLen := addEpLen1 c } := by
  simp only [Col.invalidate, addEpLen1]; split <;> rfl

theorem advance_eq (c : Col) :
    c.advance = { c with pos := if c.pos + 1 = c.cap then 0 else c.pos + 1, full := c.full || decide (c.pos + 1 = c.cap) } := by
  unfold Col.advance; split <;> simp [*]

theorem add_eq (hTT : Bool) (c : Col) (t : Trans) :
    c.add hTT t = if t.done then (write hTT c t).closeEpisode else write hTT c t := by
  simp only [Col.add, invalidate_eq, advance_eq, write, stored]

theorem invAt_write {cap : Nat} {c : Col} {g : List Rec} {C : Nat} (hTT : Bool) (t : Trans)
    (h : InvAt cap c g C false) (hlt : g.length < C + cap) :
    InvAt cap (write hTT c t) (g ++ [⟨stored hTT t, t.done⟩]) C t.done := by
  have hgl : (g ++ [(⟨stored hTT t, t.done⟩ : Rec)]).length = g.length + 1 := List.length_append
  have hp : g.length % cap < cap := Nat.mod_lt _ h.hcap
  obtain ⟨hl1, hz1, hseg1⟩ := seg_invalidate h
  have hS : (write hTT c t).epStart = c.epStart.set (g.length % cap) c.cur := by rw [← h.hpos]; rfl
  have hL : (write hTT c t).epLen = addEpLen1 c := rfl
  refine { hcap := h.hcap, ccap := h.ccap, lenS := by rw [hS, List.length_set]; exact h.lenS, lenL := hl1,
           lenD := List.length_set.trans h.lenD, hpos := ?_,
           live := ring_push h.lenD h.hcap h.live (congrArg Rec.t (getD_concat_length g _))
             (fun a ha => congrArg Rec.t (getD_concat_lt _ ha)) h.hpos rfl hgl,
           start_le := hgl ▸ Nat.le_succ_of_le h.start_le, le_start_cap := hgl ▸ hlt, hcur := h.hcur, openEp := ?_, seg := ?_ }
  · show (if c.pos + 1 = c.cap then 0 else c.pos + 1) = _
    rw [h.ccap]; exact cursor_step h.hcap h.hpos hgl
  · intro a ha1 ha2
    rw [hgl] at ha2 ⊢; rw [hS, hL]
    rcases Nat.lt_or_ge a g.length with hlt' | hge
    · have h3 := h.openEp a ha1 hlt'
      have hne := (mod_ne_of_lt hlt' (Nat.lt_of_lt_of_le hlt (Nat.add_le_add_right ha1 cap))).symm
      refine ⟨addEpLen1_zero c _ h3.1, by rw [getD_set_ne hne]; exact h3.2.1, ?_⟩
      rw [getD_concat_lt _ hlt', h3.2.2, decide_eq_false (Nat.ne_of_lt (Nat.succ_lt_succ hlt')), Bool.and_false]
      rfl
    · obtain rfl : a = g.length := Nat.le_antisymm (Nat.le_of_lt_succ ha2) hge
      refine ⟨hz1, by rw [getD_set_self (h.lenS ▸ hp)]; exact h.hcur, ?_⟩
      rw [getD_concat_length, decide_eq_true rfl, Bool.and_true]
  · intro s hv
    rw [hS]
    exact seg_write _ _ hz1 hv (hseg1 s hv)

/-- `_compute_episode_length`'s count for an episode that started in slot `cur`, closed at pointer `p` -/
def closeLen (cur cap p : Nat) : Nat := (if p < cur then p + cap else p) - cur

theorem closeLen_eq_mod {p q m : Nat} (hp : p < m) (hq : q < m) : closeLen q m p = (p + m - q) % m := by
  unfold closeLen
  split
  · next h =>
    exact (Nat.mod_eq_of_lt (Nat.sub_lt_left_of_lt_add (Nat.le_trans (Nat.le_of_lt hq) (Nat.le_add_left m p))
      (Nat.add_lt_add_right h m))).symm
  · next h =>
    rw [Nat.sub_add_comm (Nat.le_of_not_lt h), Nat.add_mod_right]
    exact (Nat.mod_eq_of_lt (Nat.lt_of_le_of_lt (Nat.sub_le p q) hp)).symm

/-- From the slot of add `f` to the slot of add `f + j`, less than a lap later, it is `j` slots round the ring:
`(batch_indices - batch_ep_start) % buffer_size` recovers the offset in the segment. -/
theorem slot_offset {f j m : Nat} (hm : 0 < m) (hj : j < m) : ((f + j) % m + m - f % m) % m = j := by
  have hq : f % m < m := Nat.mod_lt _ hm
  rw [← Nat.mod_add_mod f m j]
  generalize f % m = q at hq
  by_cases hlt : q + j < m
  · rw [Nat.mod_eq_of_lt hlt, Nat.add_assoc, Nat.add_sub_cancel_left, Nat.add_mod_right, Nat.mod_eq_of_lt hj]
  · have hle : m ≤ q + j := Nat.le_of_not_lt hlt
    rw [Nat.mod_eq_sub_mod hle, Nat.mod_eq_of_lt (Nat.sub_lt_left_of_lt_add hle (Nat.add_lt_add hq hj)),
      Nat.sub_add_cancel hle, Nat.add_sub_cancel_left, Nat.mod_eq_of_lt hj]

/-- An episode of `d ≤ m` adds starting at add `C` gets the count `d % m` (a full lap counts as nothing). -/
theorem closeLen_adds {C d m : Nat} (hm : 0 < m) (hd : d ≤ m) : closeLen (C % m) m ((C + d) % m) = d % m := by
  rw [closeLen_eq_mod (Nat.mod_lt _ hm) (Nat.mod_lt _ hm)]
  rcases Nat.lt_or_ge d m with h | h
  · rw [slot_offset hm h, Nat.mod_eq_of_lt h]
  · obtain rfl : d = m := Nat.le_antisymm hd h
    rw [Nat.add_mod_right, Nat.add_sub_cancel_left]

theorem closeEpisode_epLen {cap : Nat} {c : Col} {g : List Rec} {C : Nat} {fin : Bool} (h : InvAt cap c g C fin)
    (d : Nat) (hd : g.length = C + d) :
    c.closeEpisode.epLen = setRange c.epLen (C % cap) cap (d % cap) (d % cap) := by
  have hdc : d ≤ cap := Nat.le_of_add_le_add_left (hd ▸ h.le_start_cap)
  show setRange c.epLen c.cur c.cap (closeLen c.cur c.cap c.pos) (closeLen c.cur c.cap c.pos) = _
  rw [h.hcur, h.ccap, h.hpos, hd, closeLen_adds h.hcap hdc]

theorem invAt_close {cap : Nat} {c : Col} {g : List Rec} {C : Nat} (h : InvAt cap c g C true) :
    InvAt cap c.closeEpisode g g.length false := by
  obtain ⟨d, hd⟩ : ∃ d, g.length = C + d := Nat.exists_eq_add_of_le h.start_le
  have hdc : d ≤ cap := Nat.le_of_add_le_add_left (hd ▸ h.le_start_cap)
  have hL := closeEpisode_epLen h d hd
  exact { hcap := h.hcap, ccap := h.ccap, lenS := h.lenS, lenL := by rw [hL, setRange_length]; exact h.lenL,
          lenD := h.lenD, hpos := h.hpos, live := h.live, start_le := Nat.le_refl _, le_start_cap := Nat.le_add_right _ _,
          hcur := h.hpos, openEp := fun a h1 h2 => absurd h1 (Nat.not_le_of_lt h2),
          seg := fun s hv => by
            rw [hL] at hv ⊢
            exact seg_close h.hcap h.lenL hd hdc h.openEp h.seg s hv }

theorem inv_add {cap : Nat} {c : Col} {g : List Rec} (hTT : Bool) (t : Trans) (hinv : Inv cap c g) :
    Inv cap (c.add hTT t) (g ++ [⟨stored hTT t, t.done⟩]) := by
  obtain ⟨C, F, hlt, h, hF⟩ := hinv
  have hw := invAt_write hTT t h hlt
  rw [add_eq]
  cases hd : t.done <;> rw [hd] at hw
  · exact hw.inv (hF.append h.start_le _)
  · refine ⟨_, _, Nat.lt_add_of_pos_right h.hcap, invAt_close hw, RealStart.new (Or.inr ?_)⟩
    rw [List.length_append]
    exact congrArg Rec.last (getD_concat_length g _)

/-- The newest add `n` becomes the end of the open episode, its stored transition is replaced by `t'`. -/
theorem invAt_setLast {cap : Nat} {c : Col} {g : List Rec} {C : Nat} (h : InvAt cap c g C false)
    (n : Nat) (hn : g.length = n + 1) (t' : Trans) :
    InvAt cap { c with slots := c.slots.set (n % cap) t' } (g.set n ⟨t', true⟩) C true := by
  have hgl : (g.set n ⟨t', true⟩).length = g.length := List.length_set
  have hnlt : n < g.length := hn ▸ Nat.lt_succ_self n
  refine { hcap := h.hcap, ccap := h.ccap, lenS := h.lenS, lenL := h.lenL,
           lenD := by show (c.slots.set _ _).length = cap; rw [List.length_set]; exact h.lenD,
           hpos := by rw [hgl]; exact h.hpos, live := ?_, start_le := hgl ▸ h.start_le, le_start_cap := hgl ▸ h.le_start_cap, hcur := h.hcur,
           openEp := ?_, seg := ?_ }
  · intro a ha1 ha2
    rw [hgl] at ha1 ha2
    dsimp only
    by_cases e : n = a
    · rw [← e, getD_set_self (by rw [h.lenD]; exact Nat.mod_lt _ h.hcap), getD_set_self hnlt]
    · have ha1' : a < n + 1 := hn ▸ ha1
      have ha2' : n + 1 ≤ a + cap := hn ▸ ha2
      have hne : n % cap ≠ a % cap :=
        (mod_ne_of_lt (Nat.lt_of_le_of_ne (Nat.le_of_lt_succ ha1') (Ne.symm e)) ha2').symm
      rw [getD_set_ne hne, getD_set_ne e]
      exact h.live a ha1 ha2
  · intro a ha1 ha2
    rw [hgl] at ha2 ⊢
    have h3 := h.openEp a ha1 ha2
    refine ⟨h3.1, h3.2.1, ?_⟩
    by_cases e : n = a
    · rw [← e, getD_set_self hnlt, hn, decide_eq_true rfl]; rfl
    · rw [getD_set_ne e, h3.2.2, hn, decide_eq_false fun h => e (Nat.succ.inj h).symm]; rfl
  · exact fun s hv => seg_setLast (fun a ha => Nat.le_of_lt_succ (hn ▸ ha : a < n + 1)) rfl (h.seg s hv)

/-- Between episodes (or a whole number of laps into one) `truncate_last_trajectory` leaves the buffer alone;
the history still records that the episode ends here. -/
theorem invAt_endLast {cap : Nat} {c : Col} {g : List Rec} (h : InvAt cap c g g.length false) :
    InvAt cap c (g.set (g.length - 1) { g.getD (g.length - 1) default with last := true }) g.length false := by
  have hgl : (g.set (g.length - 1) { g.getD (g.length - 1) default with last := true }).length = g.length :=
    List.length_set
  refine { h with hpos := by rw [hgl]; exact h.hpos, live := ?_, start_le := Nat.le_of_eq hgl.symm,
                  le_start_cap := by rw [hgl]; exact h.le_start_cap, openEp := fun a h1 h2 => absurd h1 (Nat.not_le_of_lt (hgl ▸ h2)), seg := ?_ }
  · intro a ha1 ha2
    rw [hgl] at ha1 ha2
    refine (h.live a ha1 ha2).trans ?_
    dsimp only
    by_cases e : g.length - 1 = a
    · rw [e, getD_set_self ha1]
    · rw [getD_set_ne e]
  · exact fun s hv => seg_setLast (fun a ha => Nat.le_sub_one_of_lt ha) rfl (h.seg s hv)

/-- Python's `pos - 1` (with `-1` the last slot) is the slot of the previous add. -/
theorem pred_mod (A m : Nat) (hm : 0 < m) : ((A + 1) % m + m - 1) % m = A % m := by
  rw [Nat.add_sub_assoc hm, Nat.mod_add_mod, Nat.add_assoc, Nat.add_sub_cancel' hm, Nat.add_mod_right]

/-- Inside an episode, `truncate_last_trajectory` marks the newest stored transition (add `C + j`) and closes the
episode. -/
theorem truncate_open {cap : Nat} {c : Col} {g : List Rec} {C : Nat} (hTT : Bool) (h : InvAt cap c g C false)
    (hlt : g.length < C + cap) (hopen : c.cur ≠ c.pos) :
    ∃ j t', g.length = C + j + 1 ∧ (c.pos + c.cap - 1) % c.cap = (C + j) % cap ∧
      ghostStep hTT c g .truncate = g.set (C + j) ⟨t', true⟩ ∧
      (c.truncate hTT).epLen = setRange c.epLen (C % cap) cap (j + 1) (j + 1) ∧
      InvAt cap (c.truncate hTT) (g.set (C + j) ⟨t', true⟩) g.length false := by
  obtain ⟨j, hn⟩ := Nat.exists_eq_add_of_lt (Nat.lt_of_le_of_ne h.start_le fun e => hopen (by rw [h.hcur, h.hpos, e]))
  have hj : j + 1 < cap := Nat.lt_of_add_lt_add_left (hn ▸ hlt : C + (j + 1) < C + cap)
  have hi : (c.pos + c.cap - 1) % c.cap = (C + j) % cap := by rw [h.hpos, h.ccap, hn]; exact pred_mod _ _ h.hcap
  have hlast := h.live (C + j) (hn ▸ Nat.lt_succ_self _) (hn ▸ Nat.succ_le_of_lt (Nat.lt_add_of_pos_right h.hcap))
  obtain ⟨t', ht'⟩ : ∃ t' : Trans, t' =
      { (g.getD (C + j) default).t with done := true, timeout := hTT || (g.getD (C + j) default).t.timeout } :=
    ⟨_, rfl⟩
  have h2 := invAt_setLast h _ hn t'
  have he : c.truncate hTT = Col.closeEpisode { c with slots := c.slots.set ((C + j) % cap) t' } := by
    unfold Col.truncate
    rw [if_pos hopen, ht']
    simp only [hi, hlast]
  refine ⟨j, t', hn, hi, ?_, ?_, ?_⟩
  · unfold ghostStep
    rw [if_pos hopen, hn, ht']
    rfl
  · rw [he, closeEpisode_epLen h2 (j + 1) (List.length_set.trans hn), Nat.mod_eq_of_lt hj]
  · have h3 := invAt_close h2
    rwa [List.length_set, ← he] at h3

theorem inv_truncate {cap : Nat} {c : Col} {g : List Rec} (hTT : Bool) (hinv : Inv cap c g) :
    Inv cap (c.truncate hTT) (ghostStep hTT c g .truncate) := by
  obtain ⟨C, F, hlt, h, -⟩ := hinv
  by_cases hcp : c.cur = c.pos
  · -- nothing to truncate
    obtain rfl : C = g.length := by
      rw [h.hcur, h.hpos] at hcp
      exact eq_of_mod_eq hcp h.start_le hlt
    unfold Col.truncate ghostStep
    rw [if_neg (not_not_intro hcp), if_neg (not_not_intro hcp)]
    refine ⟨g.length, g.length, by rw [List.length_set]; exact hlt, invAt_endLast h, RealStart.new ?_⟩
    exact (Nat.eq_zero_or_pos g.length).imp_right (fun h0 => by rw [getD_set_self (Nat.sub_one_lt_of_lt h0)])
  · -- the open episode is closed at the last add
    obtain ⟨j, t', hn, -, hg, -, h2⟩ := truncate_open hTT h hlt hcp
    rw [hg]
    refine ⟨_, _, by rw [List.length_set]; exact Nat.lt_add_of_pos_right h.hcap, h2, RealStart.new (Or.inr ?_)⟩
    rw [hn]
    exact congrArg Rec.last (getD_set_self (hn ▸ Nat.lt_succ_self _) _)

theorem inv_runG (hTT : Bool) (cap : Nat) (hcap : 0 < cap) (ops : List COp) :
    Inv cap (runG hTT cap ops).1 (runG hTT cap ops).2 := by
  unfold runG
  suffices h : ∀ (cg : Col × List Rec), Inv cap cg.1 cg.2 →
      Inv cap (ops.foldl (stepG hTT) cg).1 (ops.foldl (stepG hTT) cg).2 from h _ (inv_init cap hcap)
  induction ops with
  | nil => intro cg h; exact h
  | cons op rest ih =>
    intro cg h
    refine ih _ ?_
    cases op with
    | add t => exact inv_add hTT t h
    | truncate => exact inv_truncate hTT h

theorem runG_fst (hTT : Bool) (cap : Nat) (ops : List COp) : (runG hTT cap ops).1 = Col.run hTT cap ops := by
  unfold runG Col.run
  suffices h : ∀ (cg : Col × List Rec), (ops.foldl (stepG hTT) cg).1 = ops.foldl (Col.step hTT) cg.1 from h _
  induction ops with
  | nil => intro cg; rfl
  | cons op rest ih => intro cg; exact ih _

theorem inv_shape {cap : Nat} {c : Col} {g : List Rec} (hinv : Inv cap c g) :
    c.pos = g.length % cap ∧ c.cap = cap ∧ c.epStart.length = cap ∧ c.epLen.length = cap ∧ c.slots.length = cap := by
  obtain ⟨_, _, -, h, -⟩ := hinv
  exact ⟨h.hpos, h.ccap, h.lenS, h.lenL, h.lenD⟩

theorem valid_iff {c : Col} {s : Nat} : c.valid s = true ↔ 0 < c.epLen.getD s 0 := decide_eq_true_iff

theorem goalRange_snd (strat : Strategy) (c : Col) (s : Nat) : (c.goalRange strat s).2 = c.epLen.getD s 0 := by
  cases strat <;> rfl

theorem seg_full {cap : Nat} {c : Col} {g : List Rec} (hinv : Inv cap c g) (s : Nat) (hv : 0 < c.epLen.getD s 0) :
    ∃ f j, j < c.epLen.getD s 0 ∧ s = (f + j) % cap ∧ c.epStart.getD s 0 = f % cap ∧ c.curIdx s = j ∧
      f + c.epLen.getD s 0 ≤ g.length ∧ g.length ≤ f + cap ∧
      ∀ k, k < c.epLen.getD s 0 →
        c.epLen.getD ((f + k) % cap) 0 = c.epLen.getD s 0 ∧ c.epStart.getD ((f + k) % cap) 0 = f % cap ∧
        c.slots.getD ((f + k) % cap) default = (g.getD (f + k) default).t ∧
        ((g.getD (f + k) default).last = true ↔ k + 1 = c.epLen.getD s 0) := by
  obtain ⟨_, _, -, h, -⟩ := hinv
  obtain ⟨f, j, hj, hsj, hf, hw, hall⟩ := h.seg s hv
  have hS : c.epStart.getD s 0 = f % cap := by have := (hall j hj).2.1; rwa [← hsj] at this
  have hlt : ∀ k, k < c.epLen.getD s 0 → f + k < g.length := fun k hk =>
    Nat.lt_of_lt_of_le (Nat.add_lt_add_left hk f) hf
  have hjc : j < cap := Nat.lt_of_add_lt_add_left (Nat.lt_of_lt_of_le (hlt j hj) hw)
  refine ⟨f, j, hj, hsj, hS, ?_, hf, hw, fun k hk => ?_⟩
  · unfold Col.curIdx
    rw [hS, h.ccap, hsj]
    exact slot_offset h.hcap hjc
  · have h3 := hall k hk
    exact ⟨h3.1, h3.2.1,
      h.live (f + k) (hlt k hk) (Nat.le_trans hw (Nat.add_le_add_right (Nat.le_add_right f k) cap)), h3.2.2⟩

/-- What relabelling slot `s` with the goal at index `idx` of its episode reads: `s` holds add `a`, the goal slot
holds add `a'`, both among the last `cap` adds and both in the episode that add `e` ended. -/
structure Relabel (cap : Nat) (c : Col) (g : List Rec) (strat : Strategy) (s idx a a' e : Nat) : Prop where
  lt : a < g.length
  recent : g.length ≤ a + cap
  goal_lt : a' < g.length
  goal_recent : g.length ≤ a' + cap
  slot : s = a % cap
  goal_slot : c.goalSlot s idx = a' % cap
  trans : c.slots.getD s default = (g.getD a default).t
  goal_trans : c.slots.getD (c.goalSlot s idx) default = (g.getD a' default).t
  goal_valid : c.valid (c.goalSlot s idx) = true
  ends : endsAt g a e
  goal_ends : endsAt g a' e
  future : strat = .future → a ≤ a'
  final : strat = .final → a' = e

theorem relabel_core {cap : Nat} {c : Col} {g : List Rec} (hinv : Inv cap c g) (strat : Strategy) (s idx : Nat)
    (hv : c.valid s = true) (hlo : (c.goalRange strat s).1 ≤ idx) (hhi : idx < (c.goalRange strat s).2) :
    ∃ a a' e, Relabel cap c g strat s idx a a' e := by
  have hv' := valid_iff.mp hv
  obtain ⟨f, j, hj, hsj, hS, hci, hf, hw, hall⟩ := seg_full hinv s hv'
  have hidx : idx < c.epLen.getD s 0 := goalRange_snd strat c s ▸ hhi
  have hg : c.goalSlot s idx = (f + idx) % cap := by
    unfold Col.goalSlot
    rw [hS, (inv_shape hinv).2.1, Nat.add_mod_mod, Nat.add_comm]
  -- the episode has `n + 1` transitions, adds `f … f + n`
  obtain ⟨n, hn⟩ : ∃ n, c.epLen.getD s 0 = n + 1 := Nat.exists_eq_succ_of_ne_zero (Nat.ne_of_gt hv')
  rw [hn] at hj hidx hf hall
  have hin : ∀ k, k < n + 1 → f + k < g.length ∧ g.length ≤ f + k + cap := fun k hk =>
    ⟨Nat.lt_of_lt_of_le (Nat.add_lt_add_left hk f) hf, Nat.le_trans hw (Nat.add_le_add_right (Nat.le_add_right f k) cap)⟩
  have hends : ∀ k, k < n + 1 → endsAt g (f + k) (f + n) := by
    intro k hk
    refine ⟨Nat.add_le_add_left (Nat.le_of_lt_succ hk) f, (hin n (Nat.lt_succ_self n)).1,
      ((hall n (Nat.lt_succ_self n)).2.2.2).mpr rfl, fun k' h1 h2 => ?_⟩
    obtain ⟨d, rfl⟩ := Nat.exists_eq_add_of_le (Nat.le_trans (Nat.le_add_right f k) h1)
    have hd : d < n := Nat.lt_of_add_lt_add_left h2
    exact Bool.eq_false_iff.mpr fun e =>
      Nat.ne_of_lt hd (Nat.succ.inj ((hall d (Nat.lt_succ_of_lt hd)).2.2.2.mp e))
  refine ⟨f + j, f + idx, f + n, (hin j hj).1, (hin j hj).2, (hin idx hidx).1, (hin idx hidx).2, hsj, hg, ?_, ?_, ?_,
    hends j hj, hends idx hidx, ?_, ?_⟩
  · rw [hsj]; exact (hall j hj).2.2.1
  · rw [hg]; exact (hall idx hidx).2.2.1
  · rw [hg, valid_iff, (hall idx hidx).1]; exact Nat.succ_pos n
  · intro hst; subst hst
    have : c.curIdx s ≤ idx := hlo
    exact Nat.add_le_add_left (hci ▸ this) f
  · intro hst; subst hst
    have h1 : c.epLen.getD s 0 - 1 ≤ idx := hlo
    rw [hn] at h1
    exact congrArg (f + ·) (Nat.le_antisymm (Nat.le_of_lt_succ hidx) h1)

theorem valid_core {cap : Nat} {c : Col} {g : List Rec} (hinv : Inv cap c g) (s : Nat) (hv : c.valid s = true) :
    ∃ a e, a < g.length ∧ g.length ≤ a + cap ∧ s = a % cap ∧ c.slots.getD s default = (g.getD a default).t ∧
      endsAt g a e := by
  obtain ⟨a, _, e, h⟩ := relabel_core hinv .episode s 0 hv (Nat.le_refl 0) (valid_iff.mp hv)
  exact ⟨a, e, h.lt, h.recent, h.slot, h.trans, h.ends⟩

theorem unfinished_core {cap : Nat} {c : Col} {g : List Rec} (hinv : Inv cap c g) (a : Nat) (ha : a < g.length)
    (hl : g.length ≤ a + cap) (hopen : ∀ k, a ≤ k → k < g.length → (g.getD k default).last = false) :
    c.valid (a % cap) = false := by
  refine Bool.eq_false_iff.mpr fun hv => ?_
  -- the slot would hold a live add with the same slot, that is `a`, and its episode would have ended
  obtain ⟨a', e, h1, h2, h3, -, h5, h6, h7, -⟩ := valid_core hinv _ hv
  obtain rfl : a = a' := mod_inj h3 (Nat.lt_of_lt_of_le ha h2) (Nat.lt_of_lt_of_le h1 hl)
  exact Bool.false_ne_true ((hopen e h5 h6).symm.trans h7)

theorem truncate_last_valid {cap : Nat} {c : Col} {g : List Rec} (hTT : Bool) (hinv : Inv cap c g)
    (hopen : c.cur ≠ c.pos) :
    (c.truncate hTT).valid ((c.pos + c.cap - 1) % c.cap) = true ∧ (c.truncate hTT).cur = (c.truncate hTT).pos := by
  obtain ⟨C, _, hlt, h, -⟩ := hinv
  obtain ⟨j, _, -, hi, -, hL, h2⟩ := truncate_open hTT h hlt hopen
  refine ⟨?_, by rw [h2.hcur, h2.hpos, List.length_set]⟩
  rw [hi, valid_iff, hL, setRange_hit _ h.hcap (Nat.lt_succ_self j) h.lenL]
  exact Nat.succ_pos j

/-- The episode that started at add `F` and that add number `g.length` ends has `T = g.length + 1 - F` transitions;
of those still stored exactly the last `T % cap` become sampleable. -/
theorem long_tail_core {cap : Nat} {c : Col} {g : List Rec} (hTT : Bool) (t : Trans) (hdone : t.done = true)
    (hinv : Inv cap c g) :
    ∃ F, F ≤ g.length ∧ (F = 0 ∨ (g.getD (F - 1) default).last = true) ∧
      (∀ a, F ≤ a → a < g.length → (g.getD a default).last = false) ∧
      ∀ a, F ≤ a → a ≤ g.length → g.length + 1 ≤ a + cap →
        ((c.add hTT t).valid (a % cap) = true ↔ g.length + 1 ≤ a + (g.length + 1 - F) % cap) := by
  have ⟨C, F, hlt, h, ⟨k, hk⟩, hF0, hFl⟩ := hinv
  have hflags : ∀ a, F ≤ a → a < g.length → (g.getD a default).last = false := fun a h1 h2 =>
    (Nat.lt_or_ge a C).elim (hFl a h1) (fun h3 => (h.openEp a h3 h2).2.2)
  refine ⟨F, Nat.le_trans (hk ▸ Nat.le_add_right F _) h.start_le, hF0, hflags, fun a ha1 ha2 ha3 => ?_⟩
  -- as far as the ring remembers the episode has `d ≤ cap` adds, from `C` on: the whole laps between `F` and `C`
  -- do not count, and `_compute_episode_length` writes `d % cap` into `d % cap` slots from that of `C` on
  obtain ⟨d, hd⟩ : ∃ d, g.length + 1 = C + d := Nat.exists_eq_add_of_le (Nat.le_succ_of_le h.start_le)
  have hT : (g.length + 1 - F) % cap = d % cap := by
    rw [hd, hk, Nat.add_assoc, Nat.add_sub_cancel_left, Nat.add_comm, Nat.add_mul_mod_self_right]
  have hdc : d ≤ cap := Nat.le_of_add_le_add_left (show C + d ≤ C + cap by rw [← hd]; exact hlt)
  have hw := invAt_write hTT t h hlt
  have hgl : (g ++ [(⟨stored hTT t, t.done⟩ : Rec)]).length = C + d := List.length_append.trans hd
  rw [valid_iff, add_eq, if_pos hdone, closeEpisode_epLen hw d hgl, hT, hd]
  rcases Nat.lt_or_ge a C with hlt' | hge
  · -- an add of an earlier lap: its slot is free as the episode is open, stays free and is not written now
    have hv := unfinished_core hinv a (Nat.lt_of_lt_of_le hlt' h.start_le) (Nat.le_of_succ_le ha3)
      (fun k hk1 hk2 => hflags k (Nat.le_trans ha1 hk1) hk2)
    have hz : c.epLen.getD (a % cap) 0 = 0 :=
      Nat.eq_zero_of_not_pos fun hp => Bool.false_ne_true (hv.symm.trans (valid_iff.mpr hp))
    have hne : ∀ k, k < d % cap → (C + k) % cap ≠ a % cap := fun k hk =>
      (mod_ne_of_lt (Nat.lt_of_lt_of_le hlt' (Nat.le_add_right C k)) (Nat.lt_of_lt_of_le
        (Nat.add_lt_add_left (Nat.lt_of_lt_of_le hk (Nat.mod_le d cap)) C) (hd ▸ ha3))).symm
    rw [setRange_miss 0 hne, show (write hTT c t).epLen.getD (a % cap) 0 = 0 from addEpLen1_zero c _ hz]
    exact iff_of_false (Nat.lt_irrefl 0) (Nat.not_le_of_lt (Nat.add_lt_add_of_lt_of_le hlt' (Nat.mod_le d cap)))
  · obtain ⟨j, rfl⟩ := Nat.exists_eq_add_of_le hge
    have hj : j < d := Nat.lt_of_add_lt_add_left (Nat.lt_of_lt_of_eq (Nat.lt_succ_of_le ha2) hd)
    rcases Nat.lt_or_ge d cap with h3 | h3
    · rw [Nat.mod_eq_of_lt h3, setRange_hit 0 h.hcap hj hw.lenL]
      exact iff_of_true (Nat.zero_lt_of_lt hj) (Nat.add_le_add_right (Nat.le_add_right C j) d)
    · -- a full lap: nothing is written, the slot is one of the still open episode
      obtain rfl : d = cap := Nat.le_antisymm hdc h3
      rw [Nat.mod_self]
      show 0 < (write hTT c t).epLen.getD _ 0 ↔ _
      rw [(hw.openEp (C + j) (Nat.le_add_right C j) (hgl ▸ Nat.add_lt_add_left hj C)).1]
      exact iff_of_false (Nat.lt_irrefl 0) (Nat.not_le_of_lt (Nat.add_lt_add_left hj C))

theorem her_step_col (h : Her) (op : Op) (e : Nat) (he : e < h.cols.length) :
    (h.step op).cols.getD e default = (h.cols.getD e default).step h.hTT (op.proj e) := by
  simp [Her.step, List.getD_eq_getElem?_getD, he]

theorem her_fold_col (ops : List Op) (h : Her) (e : Nat) (he : e < h.cols.length) :
    (ops.foldl Her.step h).cols.getD e default =
      (ops.map (Op.proj e)).foldl (Col.step h.hTT) (h.cols.getD e default) ∧
    (ops.foldl Her.step h).cols.length = h.cols.length ∧ (ops.foldl Her.step h).nEnvs = h.nEnvs ∧
    (ops.foldl Her.step h).cap = h.cap := by
  induction ops generalizing h with
  | nil => simp
  | cons op rest ih =>
    have hl : (h.step op).cols.length = h.cols.length := by simp [Her.step]
    have := ih (h.step op) (by rw [hl]; exact he)
    simp only [List.foldl_cons, List.map_cons]
    rw [this.1, her_step_col h op e he]
    refine ⟨rfl, by rw [this.2.1, hl], this.2.2.1, this.2.2.2⟩

theorem her_run_col (cap n : Nat) (hTT : Bool) (ops : List Op) (e : Nat) (he : e < n) :
    (Her.run cap n hTT ops).cols.getD e default = Col.run hTT cap (ops.map (Op.proj e)) ∧
    (Her.run cap n hTT ops).nEnvs = n ∧ (Her.run cap n hTT ops).cap = cap := by
  have h := her_fold_col ops (Her.init cap n hTT) e (by simp [Her.init]; exact he)
  refine ⟨?_, h.2.2.1, h.2.2.2⟩
  unfold Her.run Col.run
  rw [h.1]
  simp [Her.init, List.getD_eq_getElem?_getD, he]

theorem mem_validFlat (h : Her) (i : Nat) (hi : h.validFlat.contains i = true) :
    (h.cols.getD (i % h.nEnvs) default).valid (i / h.nEnvs) = true := by
  have hm : i ∈ h.validFlat := by simpa using hi
  exact (List.mem_filter.mp hm).2

theorem nbVirtual_le (n B : Nat) : nbVirtual n B ≤ B := by
  unfold nbVirtual
  apply Nat.div_le_of_le_mul
  rw [Nat.add_mul]; exact Nat.le_add_right _ _

theorem endsAt_sameEpisode {g : List Rec} {a a' e : Nat} (h1 : endsAt g a e) (h2 : endsAt g a' e) :
    sameEpisode g a a' := by
  intro k hk1 hk2
  rcases Nat.le_total a a' with h | h
  · rw [Nat.min_eq_left h] at hk1; rw [Nat.max_eq_right h] at hk2
    exact h1.2.2.2 k hk1 (Nat.lt_of_lt_of_le hk2 h2.1)
  · rw [Nat.min_eq_right h] at hk1; rw [Nat.max_eq_left h] at hk2
    exact h2.2.2.2 k hk1 (Nat.lt_of_lt_of_le hk2 h1.1)

theorem her_col_inv (cap n : Nat) (hTT : Bool) (ops : List Op) (hcap : 0 < cap) (e : Nat) (he : e < n) :
    Inv cap ((Her.run cap n hTT ops).cols.getD e default) (ghostOf hTT cap ops e) := by
  rw [(her_run_col cap n hTT ops e he).1, ← runG_fst]
  exact inv_runG hTT cap hcap _

theorem real_isStored {cap : Nat} {c : Col} {g : List Rec} (hinv : Inv cap c g) (s : Nat)
    (hv : c.valid s = true) : IsStored cap g (c.real s) := by
  obtain ⟨a, e, h1, h2, -, h4, h5⟩ := valid_core hinv s hv
  exact ⟨a, e, h1, h2, h5, by rw [Col.real, h4]⟩

theorem virt_isRelabelled {cap : Nat} {c : Col} {g : List Rec} (cr : Nat → Nat → Int) (hinv : Inv cap c g)
    (strat : Strategy) (s idx : Nat) (hv : c.valid s = true)
    (hlo : (c.goalRange strat s).1 ≤ idx) (hhi : idx < (c.goalRange strat s).2) :
    IsRelabelled cr strat cap g (c.virt cr s idx) := by
  obtain ⟨a, a', e, h⟩ := relabel_core hinv strat s idx hv hlo hhi
  exact ⟨a, a', e, h.lt, h.recent, h.goal_lt, h.goal_recent, h.ends, h.goal_ends, h.future, h.final,
    by rw [Col.virt, h.trans, h.goal_trans]⟩

/-- `final` ignores the draw. -/
theorem goalIdx_range (strat : Strategy) (c : Col) (s draw : Nat) (hv : c.valid s = true)
    (h : strat = .final ∨ ((c.goalRange strat s).1 ≤ draw ∧ draw < (c.goalRange strat s).2)) :
    (c.goalRange strat s).1 ≤ c.goalIdx strat s draw ∧ c.goalIdx strat s draw < (c.goalRange strat s).2 := by
  cases strat with
  | final => exact ⟨Nat.le_refl _, Nat.sub_one_lt (Nat.ne_of_gt (valid_iff.mp hv))⟩
  | future => exact h.resolve_left (fun h => by cases h)
  | episode => exact h.resolve_left (fun h => by cases h)

theorem sample_core (cr : Nat → Nat → Int) (cap n : Nat) (hTT : Bool) (ops : List Op) (hcap : 0 < cap) (hn : 0 < n)
    (strat : Strategy) (nGoal batch : Nat) (draws goals : List Nat)
    (hok : (Her.run cap n hTT ops).sampleOk strat nGoal batch draws goals = true) :
    ∃ real virt, (Her.run cap n hTT ops).sampleOut cr strat nGoal batch draws goals = real ++ virt ∧
      real.length = batch - nbVirtual nGoal batch ∧ virt.length = nbVirtual nGoal batch ∧
      (∀ x, x ∈ real → ∃ e, e < n ∧ IsStored cap (ghostOf hTT cap ops e) x) ∧
      (∀ x, x ∈ virt → ∃ e, e < n ∧ IsRelabelled cr strat cap (ghostOf hTT cap ops e) x) := by
  generalize hh : Her.run cap n hTT ops = h at hok
  have hne : h.nEnvs = n := by rw [← hh]; exact (her_run_col cap n hTT ops 0 hn).2.1
  have hinv : ∀ e, e < n → Inv cap (h.cols.getD e default) (ghostOf hTT cap ops e) := by
    intro e he; rw [← hh]; exact her_col_inv cap n hTT ops hcap e he
  unfold Her.sampleOk at hok
  simp only [Bool.and_eq_true, beq_iff_eq, List.all_eq_true] at hok
  obtain ⟨⟨⟨hlen, hglen⟩, hvalid⟩, hgoals⟩ := hok
  have hnv := nbVirtual_le nGoal batch
  refine ⟨_, _, rfl, ?_, ?_, ?_, ?_⟩
  · rw [List.length_map, List.length_drop, hlen]
  · rw [List.length_map, List.length_zip, List.length_take, hlen, hglen, Nat.min_eq_left hnv, Nat.min_self]
  · intro x hx
    rw [List.mem_map] at hx
    obtain ⟨i, hi, rfl⟩ := hx
    have hiv := mem_validFlat h i (hvalid i (List.mem_of_mem_drop hi))
    rw [hne] at hiv
    refine ⟨i % n, Nat.mod_lt _ hn, ?_⟩
    simp only [Her.unravel, hne]
    exact real_isStored (hinv _ (Nat.mod_lt _ hn)) _ hiv
  · intro x hx
    rw [List.mem_map] at hx
    obtain ⟨⟨i, idx⟩, hi, rfl⟩ := hx
    have hiv := mem_validFlat h i (hvalid i (List.mem_of_mem_take (List.of_mem_zip hi).1))
    rw [hne] at hiv
    have hg := hgoals (i, idx) hi
    simp only [Her.unravel, hne, Bool.or_eq_true, beq_iff_eq, Bool.and_eq_true, decide_eq_true_eq] at hg
    have hrange := goalIdx_range strat _ (i / n) idx hiv hg
    refine ⟨i % n, Nat.mod_lt _ hn, ?_⟩
    simp only [Her.unravel, hne]
    exact virt_isRelabelled cr (hinv _ (Nat.mod_lt _ hn)) strat _ _ hiv hrange.1 hrange.2

end SB3Verif.Her.Lemmas
