/-
C11 — predict() returns a valid action of the right shape for every supported space.

Property theorems only (helper lemmas are in `SB3Verif/Lemmas/Predict.lean`). All statements are about the
executable model `SB3Verif/Model/Predict.lean`, whose definitions the driver `SB3Verif/Driver/C11.lean` runs
against the real `predict()` (`harness/c11.py`).
-/
import SB3Verif.Lemmas.Predict

namespace SB3Verif.C11

open SB3Verif.Predict

/-! ## Shapes: a leading batch dimension exactly when the input had one -/

/-- One observation of the space (its own shape) is classified "not vectorized" — every space kind, every
rank, every size. -/
theorem single_obs_not_vectorized (l : Leaf) : isVectorized l l.shape = .ok false :=
  (Lemmas.Predict.isVectorized_false_iff l _).2 rfl

/-- A batch of `n` observations (`n` may be 1) is classified "vectorized" — every space kind, rank, size. -/
theorem batch_obs_vectorized (l : Leaf) (n : Nat) : isVectorized l (n :: l.shape) = .ok true :=
  (Lemmas.Predict.isVectorized_true_iff l _).2 ⟨n, rfl⟩

/-- Converse: "not vectorized" is answered only for the space's own shape … -/
theorem not_vectorized_only_single (l : Leaf) (obs : Shape) (h : isVectorized l obs = .ok false) :
    obs = l.shape :=
  (Lemmas.Predict.isVectorized_false_iff l obs).1 h

/-- … and "vectorized" only for that shape with one extra leading dimension; every other shape is rejected
(the two accepted patterns differ in rank, so they are disjoint). -/
theorem vectorized_only_batch (l : Leaf) (obs : Shape) (h : isVectorized l obs = .ok true) :
    ∃ n, obs = n :: l.shape :=
  (Lemmas.Predict.isVectorized_true_iff l obs).1 h

/-- A channel-last image `(h, w, c)` handed to a policy whose space is channel-first `(c, h, w)` is re-ordered
and counted as one observation; a batch `(n, h, w, c)` is re-ordered and counted as a batch of `n`.
(For `h = w = c` the two layouts have the same shape and cannot be told apart: hypothesis `hne`.) -/
theorem image_hwc_transposed (n c h w : Nat) (hc : 0 < c) (hh : 0 < h) (hw : 0 < w)
    (hne : [h, w, c] ≠ [c, h, w]) :
    leafToTensor (.box [c, h, w] true) [h, w, c] = .ok ⟨1, false, true⟩ ∧
    leafToTensor (.box [c, h, w] true) [n, h, w, c] = .ok ⟨n, true, true⟩ := by
  have hv := Lemmas.Predict.valid_chw c h w hc hh hw
  exact ⟨Lemmas.Predict.leafToTensor_transposed _ _ _ _ _ (by simp [fits, hne]) rfl
      (Lemmas.Predict.fits_self _) (Lemmas.Predict.leafToTensorAcc_withBatch false _ hv none),
    Lemmas.Predict.leafToTensor_transposed _ _ _ _ _ (by simp [fits, hne]) rfl
      (Lemmas.Predict.fits_cons n _) (Lemmas.Predict.leafToTensorAcc_withBatch false _ hv (some n))⟩

/-- An image already in the space's layout is left alone. -/
theorem image_chw_kept (n c h w : Nat) (hc : 0 < c) (hh : 0 < h) (hw : 0 < w) :
    leafToTensor (.box [c, h, w] true) [c, h, w] = .ok ⟨1, false, false⟩ ∧
    leafToTensor (.box [c, h, w] true) [n, c, h, w] = .ok ⟨n, true, false⟩ := by
  have hv := Lemmas.Predict.valid_chw c h w hc hh hw
  exact ⟨Lemmas.Predict.leafToTensorAcc_withBatch false _ hv none,
    Lemmas.Predict.leafToTensorAcc_withBatch false _ hv (some n)⟩

/-- **Shape of the result** (partial: needs `flattenable`, i.e. no rank-0 `Box` observation space — see
`predict_shape_counterexample`). For every valid observation space (any leaf kind and rank, or a one-level
Dict of them), every valid action space: one observation gives an action of the action space's shape, a batch
of `n` observations (any `n`, including 1) gives `n ::` that shape. -/
theorem predict_shape_partial (os : ObsSpace) (as : ActSpace) (n : Nat)
    (hv : os.valid = true) (hfl : os.flattenable = true) (ha : as.valid = true) :
    predict os as os.single = .ok as.shape ∧ predict os as (os.batched n) = .ok (n :: as.shape) := by
  rw [Lemmas.Predict.single_eq, Lemmas.Predict.batched_eq]
  exact ⟨Lemmas.Predict.predict_withBatch os as hv hfl ha none, Lemmas.Predict.predict_withBatch os as hv hfl ha (some n)⟩

/-- The statement without the `flattenable` hypothesis is false: for the rank-0 space `Box(shape=())` the
flatten extractor raises (`nn.Flatten` on a rank-1 tensor) — recorded finding K-C11-b. -/
theorem predict_shape_counterexample :
    ¬ (∀ (os : ObsSpace) (as : ActSpace), os.valid = true → as.valid = true →
        predict os as os.single = .ok as.shape) :=
  fun h => nomatch h (.leaf (.box [] false)) (.discrete 2) rfl rfl

/-- what the model answers on the witness -/
theorem predict_rank0_box_raises (as : ActSpace) :
    predict (.leaf (.box [] false)) as (.arr []) = .error .flatten ∧
    predict (.leaf (.box [] false)) as (.arr [3]) = .error .flatten :=
  ⟨rfl, rfl⟩

/-- The `vectorized_env` flag `obs_to_tensor` returns: false for one observation, true for a batch. -/
theorem vectorized_flag (os : ObsSpace) (n : Nat) (hv : os.valid = true) :
    vectorizedFlag os os.single = .ok false ∧ vectorizedFlag os (os.batched n) = .ok true := by
  rw [Lemmas.Predict.single_eq, Lemmas.Predict.batched_eq]
  exact ⟨Lemmas.Predict.vectorizedFlag_withBatch os hv none, Lemmas.Predict.vectorizedFlag_withBatch os hv (some n)⟩

/-- **DQN's epsilon-greedy branch keeps the batch semantics**: the random-action branch returns an array of
the same shape as the greedy branch, for one observation and for a batch of any size, array or Dict. -/
theorem dqn_explore_shape (os : ObsSpace) (as : ActSpace) (n : Nat)
    (hv : os.valid = true) (hfl : os.flattenable = true) (ha : as.valid = true) :
    dqnExplore os as os.single = predict os as os.single ∧
    dqnExplore os as (os.batched n) = predict os as (os.batched n) := by
  -- both branches return the action shape with the observation's optional batch dimension
  have key (b : Option Nat) := (Lemmas.Predict.dqnExplore_withBatch os as hv b).trans
    (Lemmas.Predict.predict_withBatch os as hv hfl ha b).symm
  rw [Lemmas.Predict.single_eq, Lemmas.Predict.batched_eq]
  exact ⟨key none, key (some n)⟩

/-- A Dict observation mixing a batch of `n ≠ 1` (so `n ≥ 2`, or the empty batch) under one key with a single array
under another is rejected (the forward pass cannot concatenate the features). -/
theorem dict_mixed_rejected (k1 k2 : String) (l1 l2 : Leaf) (as : ActSpace) (n : Nat) (hk : k1 ≠ k2)
    (h1 : l1.valid = true) (h2 : l2.valid = true) (f1 : l1.flattenable = true) (f2 : l2.flattenable = true)
    (ha : as.valid = true) (hn : n ≠ 1) :
    predict (.dict [(k1, l1), (k2, l2)]) as (.dict [(k1, n :: l1.shape), (k2, l2.shape)]) =
      .error .mixedBatch := by
  rw [Lemmas.Predict.predict_two_keys k1 k2 l1 l2 as n hk h1 h2 f1 f2 ha, if_neg hn]

/-- … whereas a batch of exactly one mixed with a single array is accepted as a batch of one (the flag is the
OR over the keys): this is what the code does; it is outside the property's quantifier. -/
theorem dict_mixed_batch1_accepted (k1 k2 : String) (l1 l2 : Leaf) (as : ActSpace) (hk : k1 ≠ k2)
    (h1 : l1.valid = true) (h2 : l2.valid = true) (f1 : l1.flattenable = true) (f2 : l2.flattenable = true)
    (ha : as.valid = true) :
    predict (.dict [(k1, l1), (k2, l2)]) as (.dict [(k1, 1 :: l1.shape), (k2, l2.shape)]) =
      .ok (1 :: as.shape) := by
  rw [Lemmas.Predict.predict_two_keys k1 k2 l1 l2 as 1 hk h1 h2 f1 f2 ha, if_pos rfl]

/-- What the code does outside the property's quantifier (recorded so that the model is not mistaken for a
validator): in a Dict observation the shape of a key is checked only until one key was found vectorized
(`vectorized_env or is_vectorized_observation(…)` short-circuits), so a later key of the wrong shape is
reshaped silently — here a flat 4-vector is taken for two observations of a `Box(2)`. -/
theorem dict_later_key_not_validated :
    predict (.dict [("a", .box [2] false), ("b", .box [2] false)]) (.discrete 2)
      (.dict [("a", [2, 2]), ("b", [4])]) = .ok [2] ∧
    predict (.dict [("a", .box [2] false), ("b", .box [2] false)]) (.discrete 2)
      (.dict [("b", [4]), ("a", [2, 2])]) = .error .shape := by
  decide

/-! ## Actions are inside the action space, whatever the network emits -/

section Order
variable {α : Type} [LinearOrder α]

/-- `np.clip` puts any value between the bounds (any linear order: reals, rationals, or the floats that are
not NaN). -/
theorem clip_in_bounds (x lo hi : α) (h : lo ≤ hi) : lo ≤ clip x lo hi ∧ clip x lo hi ≤ hi :=
  Lemmas.Predict.clip_mem x lo hi h

/-- `argmax` of a non-empty row of Q-values / logits is a valid class index … -/
theorem argmax_lt_n (l : List α) (h : l ≠ []) : argmax l < l.length :=
  Lemmas.Predict.argmax_lt l h

/-- … and it points at a maximal entry. -/
theorem argmax_is_max (l : List α) (h : l ≠ []) : ∃ v, l[argmax l]? = some v ∧ ∀ y ∈ l, y ≤ v :=
  Lemmas.Predict.argmax_spec l h

/-- every component of the MultiDiscrete mode is below its number of classes (any logits) -/
theorem multidiscrete_component_lt (nvec : List Nat) (logits : List α) (hpos : ∀ n ∈ nvec, 0 < n)
    (hlen : logits.length = nvec.sum) : inMulti nvec (mdMode nvec logits) = true := by
  induction nvec generalizing logits with
  | nil => rfl
  | cons n ns ih =>
    rw [List.forall_mem_cons] at hpos
    rw [List.sum_cons] at hlen
    -- the first block has `n > 0` logits, so its `argmax` is below `n`
    have htake : (logits.take n).length = n := List.length_take_of_le (hlen ▸ Nat.le_add_right n _)
    have h1 := Lemmas.Predict.argmax_lt (logits.take n) (List.ne_nil_of_length_pos (htake.symm ▸ hpos.1))
    rw [Lemmas.Predict.mdMode_cons, inMulti, ih (logits.drop n) hpos.2 (by rw [List.length_drop, hlen, Nat.add_sub_cancel_left]),
      Bool.and_true, decide_eq_true_eq]
    exact Nat.lt_of_lt_of_eq h1 htake

/-- the Bernoulli mode is 0 or 1 (any logit) -/
theorem bernoulli_01 [Zero α] (x : α) : bernMode x = 0 ∨ bernMode x = 1 :=
  (ite_eq_or_eq _ _ _).symm

end Order

section AnyArithmetic
variable {α : Type} [LinearOrder α] [Add α] [Sub α] [Mul α] [Div α] [OfNat α 1] [OfNat α 2]

/-- **`unscale_action` never leaves the bounds** — for every scaled action (not only those in `[-1, 1]`) and
for *any* arithmetic (`+ - * /` are uninterpreted: exact or rounded), because the affine map is followed by
`np.clip` (fix 933445d). Without the clip this needs exact arithmetic (`unscale_exact`) and fails in float32. -/
theorem unscale_in_bounds (lo hi s : α) (h : lo ≤ hi) : lo ≤ unscale lo hi s ∧ unscale lo hi s ≤ hi :=
  Lemmas.Predict.unscale_mem lo hi s h

/-- The Box branch of `predict` (squashed policies unscale, the others clip): every component of the returned
action is within its bounds — for every raw network output, however far outside. -/
theorem box_action_in_bounds (squash : Bool) (lo hi raw : List α) (hb : List.Forall₂ (· ≤ ·) lo hi)
    (hlen : raw.length = lo.length) :
    (ActSpaceV.box lo hi).contains (.real (postBox squash lo hi raw)) = true := by
  induction hb generalizing raw with
  | nil => rw [List.eq_nil_of_length_eq_zero hlen]; rfl
  | cons hlh _ ih =>
    match raw, hlen with
    | x :: xs, hlen =>
      have := Lemmas.Predict.postBox1_mem squash _ _ x hlh
      exact Lemmas.Predict.inBox_cons this.1 this.2 (ih xs (Nat.succ.inj hlen))

/-- **The deterministic action is a member of the action space** for every kind of action space and every
network output (arbitrary weights): Box by clipping/unscaling, Discrete by `argmax`, MultiDiscrete by one
`argmax` per block, MultiBinary by thresholding. -/
theorem predict_action_valid [Zero α] (as : ActSpaceV α) (squash : Bool) (out : List α)
    (hwf : Lemmas.Predict.ActSpaceV.wf as) (hlen : out.length = Lemmas.Predict.ActSpaceV.outDim as) :
    as.contains (modeAction as squash out) = true := by
  cases as with
  | box lo hi => exact box_action_in_bounds squash lo hi out hwf hlen
  | discrete n =>
    have hlen : out.length = n := hlen
    exact decide_eq_true (hlen ▸ argmax_lt_n out (List.ne_nil_of_length_pos (hlen ▸ hwf)))
  | multiDiscrete nv => exact multidiscrete_component_lt nv out hwf hlen
  | multiBinary n =>
    have hlen : out.length = n := hlen
    refine Bool.and_eq_true_iff.2 ⟨beq_iff_eq.2 ?_, List.all_eq_true.2 fun k hk => ?_⟩
    · rw [List.length_map, List.length_take, Nat.min_eq_left hlen.ge]
    · obtain ⟨x, -, rfl⟩ := List.mem_map.1 hk
      rcases bernoulli_01 x with h | h <;> rw [h] <;> decide

end AnyArithmetic

section ExactArithmetic
variable {α : Type} [Field α] [LinearOrder α] [IsStrictOrderedRing α]

/-- In exact arithmetic the clip of `unscale_action` is the identity on `[-1, 1]`: the result is the affine
image `low + (s + 1)/2 · (high − low)`. -/
theorem unscale_exact (lo hi s : α) (h : lo ≤ hi) (h1 : -1 ≤ s) (h2 : s ≤ 1) :
    unscale lo hi s = lo + (s + 1) / 2 * (hi - lo) :=
  -- the affine map is increasing and takes `-1, 1` to `lo, hi`, so the clip is the identity
  have m := Lemmas.Interval.unscale_mem h h1 h2
  (Lemmas.Predict.unscale_eq lo hi s).trans (Lemmas.Interval.min_max_of_mem m.1 m.2)

/-- A saturated network (`tanh = ±1`, or beyond) gives exactly the bound. -/
theorem unscale_saturates (lo hi s : α) (h : lo ≤ hi) :
    (1 ≤ s → unscale lo hi s = hi) ∧ (s ≤ -1 → unscale lo hi s = lo) :=
  Lemmas.Predict.unscale_eq lo hi s ▸
  ⟨fun hs => Lemmas.Interval.min_max_of_ge
      ((Lemmas.Interval.unscale_one lo hi).ge.trans (Lemmas.Interval.unscale_mono h hs)),
    fun hs => Lemmas.Interval.min_max_of_le h
      ((Lemmas.Interval.unscale_mono h hs).trans (Lemmas.Interval.unscale_neg_one lo hi).le)⟩

/-- `unscale_action` inverts `scale_action` on the action space, and `scale_action` maps into `[-1, 1]`. -/
theorem unscale_scale_inverse (lo hi a : α) (h : lo < hi) (h1 : lo ≤ a) (h2 : a ≤ hi) :
    unscale lo hi (scale lo hi a) = a ∧ -1 ≤ scale lo hi a ∧ scale lo hi a ≤ 1 :=
  ⟨Lemmas.Predict.unscale_scale lo hi a h h1 h2, Lemmas.Interval.scale_mem h.le h1 h2⟩

end ExactArithmetic

/-! ## Encodings: discrete observations by value, images scaled alike in either layout -/

section OneHot
variable {α : Type} [Zero α] [One α]

/-- the one-hot vector of value `k` has a `1` at position `k` and `0` elsewhere, and `n` entries -/
theorem onehot_index (n k i : Nat) (h : i < n) :
    (oneHot n k : List α)[i]? = some (if i = k then 1 else 0) ∧ (oneHot n k : List α).length = n :=
  ⟨Lemmas.Predict.oneHot_getElem? n k i h, Lemmas.Predict.oneHot_length n k⟩

/-- different values get different encodings -/
theorem onehot_injective (h01 : (0 : α) ≠ 1) (n k k' : Nat) (hk : k < n)
    (h : (oneHot n k : List α) = oneHot n k') : k = k' := by
  -- compare the entries at position `k`
  have h1 := Lemmas.Predict.oneHot_getElem? (α := α) n k k hk
  rw [h, Lemmas.Predict.oneHot_getElem? n k' k hk, if_pos rfl] at h1
  by_contra hne
  rw [if_neg hne] at h1
  exact h01 (Option.some.inj h1)

end OneHot

section OneHotDecode
variable {α : Type} [Field α] [LinearOrder α] [IsStrictOrderedRing α]

/-- **MultiDiscrete observations are encoded block by block, by value**: the encoding has `Σ nvec` entries
and cutting it at the class counts and taking the position of the `1` in each block gives back the
observation. -/
theorem multidiscrete_onehot_blocks (nvec ks : List Nat) (h : allLt nvec ks = true) (hl : ks.length = nvec.length) :
    (multiOneHot nvec ks : List α).length = nvec.sum ∧ mdMode nvec (multiOneHot nvec ks : List α) = ks :=
  ⟨Lemmas.Predict.multiOneHot_length nvec ks hl, Lemmas.Predict.mdMode_multiOneHot nvec ks h⟩

theorem multidiscrete_onehot_injective (nvec ks ks' : List Nat) (h : allLt nvec ks = true)
    (h' : allLt nvec ks' = true) (heq : (multiOneHot nvec ks : List α) = multiOneHot nvec ks') : ks = ks' := by
  rw [← Lemmas.Predict.mdMode_multiOneHot (α := α) nvec ks h, heq, Lemmas.Predict.mdMode_multiOneHot nvec ks' h']

end OneHotDecode

section Image
variable {β γ : Type} [Inhabited β] [Inhabited γ]

/-- `np.transpose(img, (2, 0, 1))` on C-order data: `out[c, h, w] = in[h, w, c]`. -/
theorem transpose_hwc_chw_index (H W C : Nat) (flat : List β) (c h w : Nat) (hc : c < C) (hh : h < H) (hw : w < W) :
    (transposeHWC H W C flat)[c * (H * W) + h * W + w]? = some (flat.getD (h * (W * C) + w * C + c) default) :=
  Lemmas.Predict.transposeHWC_index H W C flat c h w hc hh hw

/-- The re-ordering is a bijection of the pixels: `(1, 2, 0)` undoes it. -/
theorem transpose_roundtrip (H W C : Nat) (flat : List β) (hlen : flat.length = H * W * C) :
    transposeCHW H W C (transposeHWC H W C flat) = flat := by
  apply List.ext_getElem?
  intro i
  rcases Nat.lt_or_ge i (H * W * C) with hi | hi
  · obtain ⟨c, h, w, hc, hh, hw, hsrc, hback⟩ := Lemmas.Predict.srcCHW_decomp H W C i hi
    rw [transposeCHW, Lemmas.Predict.getElem?_map_range _ hi]
    show some ((transposeHWC H W C flat).getD (Lemmas.Predict.srcCHW H W C i) default) = _
    rw [hsrc, List.getD_eq_getElem?_getD, transpose_hwc_chw_index H W C flat c h w hc hh hw, hback,
      Option.getD_some, List.getD_eq_getElem?_getD, List.getElem?_eq_getElem (hlen ▸ hi)]
    rfl
  · rw [List.getElem?_eq_none (l := flat) (hlen ▸ hi), List.getElem?_eq_none]
    rwa [transposeCHW, List.length_map, List.length_range]

/-- **Scaling commutes with the layout change**: any pointwise map (`x ↦ x / 255`) applied after the axis
permutation equals the permutation applied after the map. -/
theorem scale_commutes_with_transpose (H W C : Nat) (f : β → γ) (flat : List β) (hlen : flat.length = H * W * C) :
    (transposeHWC H W C flat).map f = transposeHWC H W C (flat.map f) := by
  rw [transposeHWC, transposeHWC, List.map_map]
  refine List.map_congr_left fun i hi => ?_
  -- every source index is inside `flat`, so no `default` is read
  have hs : Lemmas.Predict.srcHWC H W C i < flat.length :=
    hlen ▸ Lemmas.Predict.srcHWC_lt H W C i (List.mem_range.1 hi)
  show f (flat.getD (Lemmas.Predict.srcHWC H W C i) default) =
    (flat.map f).getD (Lemmas.Predict.srcHWC H W C i) default
  rw [List.getD_eq_getElem?_getD, List.getD_eq_getElem?_getD, List.getElem?_map, List.getElem?_eq_getElem hs]
  rfl

end Image

/-- **Images are encoded identically whichever layout they arrive in**: the features for an `(h, w, c)` image
handed to a `(c, h, w)` policy are the features of the same image arranged `(c, h, w)`. -/
theorem image_layout_irrelevant {α : Type} [Zero α] [One α] [Div α] [NatCast α] (c h w : Nat) (normalize : Bool)
    (px : List Nat) :
    encodeRow (α := α) (.box [c, h, w] true) true normalize (.nat px) =
      if px.length = c * h * w then
        encodeRow (α := α) (.box [c, h, w] true) false normalize (.nat (transposeHWC h w c px))
      else .error .data := by
  -- the inner length test on the transposed image always succeeds
  exact if_congr Iff.rfl (if_pos (Lemmas.Predict.transposeHWC_length h w c px)).symm rfl

/-! ## Non-vacuity: the hypotheses above are met by concrete non-trivial data -/

/-- a Dict space with an image, a Discrete and a MultiDiscrete entry is valid and flattenable -/
example : (ObsSpace.dict [("img", .box [3, 36, 36] true), ("d", .discrete 5), ("md", .multiDiscrete [2, 3])]).valid = true ∧
    (ObsSpace.dict [("img", .box [3, 36, 36] true), ("d", .discrete 5), ("md", .multiDiscrete [2, 3])]).flattenable = true := by
  decide

example : (ActSpace.box [2, 3]).valid = true ∧ (ActSpace.multiDiscrete [3, 2]).valid = true := by decide

example : predict (.dict [("img", .box [3, 36, 36] true), ("d", .discrete 5)]) (.box [2, 3])
    (.dict [("d", [4]), ("img", [4, 36, 36, 3])]) = .ok [4, 2, 3] := by decide

example : predict (.leaf (.multiBinary [2, 3])) (.discrete 4) (.arr [2, 3]) = .ok [] := by decide

example : ([36, 36, 3] : Shape) ≠ [3, 36, 36] := by decide

/-- a well-formed asymmetric box and an output far outside it -/
example : Lemmas.Predict.ActSpaceV.wf (ActSpaceV.box [(-3 : Int), 0] [(-1 : Int), 8]) := by
  simp only [Lemmas.Predict.ActSpaceV.wf]
  exact .cons (by decide) (.cons (by decide) .nil)

example : modeAction (ActSpaceV.box [(-3 : Int), 0] [(-1 : Int), 8]) true [50, -50] = .real [-1, 0] := by
  decide

example : modeAction (ActSpaceV.multiDiscrete [2, 3] : ActSpaceV Rat) false [1, 5, 0, 7, 7] = .int [1, 1] := by decide

example : allLt [2, 3] [1, 2] = true ∧ ([1, 2] : List Nat).length = ([2, 3] : List Nat).length := by decide

example : (multiOneHot [2, 3] [1, 2] : List Rat) = [0, 1, 0, 0, 1] := by decide

example : transposeHWC 2 2 2 [0, 1, 2, 3, 4, 5, 6, 7] = [0, 2, 4, 6, 1, 3, 5, 7] := by decide

end SB3Verif.C11
