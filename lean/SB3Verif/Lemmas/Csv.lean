/-
Helper lemmas for C20 about the CSV model (`SB3Verif/Model/Csv.lean`):
physical-line splitting, the quote-parity padding loop of the header rewrite (it pads exactly the line breaks that end a
row, because every other line break of what the writer emits is inside quotes: `scan`, `closed`), the reader, and the
invariant `Inv` (the file is its header plus one row per dump) under which the whole file reads back.
-/
import SB3Verif.Model.Csv

namespace SB3Verif.Csv.Lemmas

open SB3Verif.Csv

theorem special_eq_false {c : Char} :
    special c = false ↔ c ≠ '"' ∧ c ≠ ',' ∧ c ≠ '\n' ∧ c ≠ '\r' ∧ c ≠ '#' := by
  simp only [special, Bool.or_eq_false_iff, decide_eq_false_iff_not, and_assoc, ne_eq]

theorem tokClean_iff {t : Str} : tokClean t = true ↔ t ≠ [] ∧ ∀ c ∈ t, special c = false := by
  simp only [tokClean, Bool.and_eq_true, Bool.not_eq_true', List.isEmpty_eq_false_iff, List.all_eq_true]

theorem kvsOk_iff {kvs : List (Str × Cell)} : kvsOk kvs = true ↔
    ((∀ k ∈ kvs.map Prod.fst, tokClean k = true) ∧ (kvs.map Prod.fst).Nodup) ∧ ∀ kc ∈ kvs, cellOk kc.2 = true := by
  simp only [kvsOk, Bool.and_eq_true, List.all_eq_true, decide_eq_true_eq]

theorem rowVisible_iff {cells : List Cell} :
    rowVisible cells = true ↔ 2 ≤ cells.length ∨ ∃ c ∈ cells, c ≠ Cell.missing := by
  simp only [rowVisible, Bool.or_eq_true, decide_eq_true_eq, List.any_eq_true, bne_iff_ne, ne_eq]

theorem joinComma_cons (a : Str) (l : List Str) : joinComma (a :: l) = a ++ (l.map (',' :: ·)).flatten := by
  induction l generalizing a with
  | nil => exact (List.append_nil a).symm
  | cons b r ih => exact congrArg (a ++ ',' :: ·) (ih b)

theorem mem_joinComma {l : List Str} {c : Char} (h : c ∈ joinComma l) : c = ',' ∨ ∃ a ∈ l, c ∈ a := by
  induction l with
  | nil => cases h
  | cons a r ih =>
    cases r with
    | nil => exact Or.inr ⟨a, List.mem_cons_self, h⟩
    | cons b r' =>
      rcases List.mem_append.mp h with h | h
      · exact Or.inr ⟨a, List.mem_cons_self, h⟩
      · rcases List.mem_cons.mp h with h | h
        · exact Or.inl h
        · exact (ih h).imp_right fun ⟨x, hx, hc⟩ => ⟨x, List.mem_cons_of_mem _ hx, hc⟩

theorem joinComma_append {a : List Str} (ha : a ≠ []) (b : List Str) :
    joinComma (a ++ b) = joinComma a ++ (b.map (',' :: ·)).flatten := by
  cases a with
  | nil => exact absurd rfl ha
  | cons x r =>
    rw [List.cons_append, joinComma_cons, joinComma_cons, List.map_append, List.flatten_append, List.append_assoc]

theorem joinComma_pad (cells : List Cell) (hne : cells ≠ []) (k : Nat) :
    joinComma ((cells ++ List.replicate k Cell.missing).map cellBytes)
      = joinComma (cells.map cellBytes) ++ List.replicate k ',' := by
  rw [List.map_append, joinComma_append fun h => hne (List.map_eq_nil_iff.mp h), List.map_replicate,
    List.map_replicate]
  exact congrArg _ List.flatten_replicate_singleton

theorem length_joinComma_le_append (a b : List Str) : (joinComma a).length ≤ (joinComma (a ++ b)).length := by
  by_cases ha : a = []
  · subst ha; exact Nat.zero_le _
  · rw [joinComma_append ha, List.length_append]; exact Nat.le_add_right _ _

/-- the `in_quotes` flag after the characters of `s` when it was `p` before them; `none` when a line break of `s` is
outside quotes -/
def scan : Bool → Str → Option Bool
  | p, [] => some p
  | p, c :: s =>
    if c = '"' then scan (!p) s
    else if (c = '\n' ∨ c = '\r') ∧ p = false then none
    else scan p s

theorem scan_append (p : Bool) (a b : Str) : scan p (a ++ b) = (scan p a).bind (scan · b) := by
  induction a generalizing p with
  | nil => rfl
  | cons c a ih =>
    simp only [List.cons_append, scan]
    split
    · exact ih _
    · split
      · rfl
      · exact ih _

theorem oddQuotes_cons (c : Char) (l : Str) :
    oddQuotes (c :: l) = if c = '"' then !oddQuotes l else oddQuotes l := by
  simp only [oddQuotes, List.count_cons, beq_iff_eq]
  split
  · rcases Nat.mod_two_eq_zero_or_one (List.count '"' l) with h | h <;> simp [Nat.add_mod, h]
  · rfl

theorem oddQuotes_nil : oddQuotes [] = false := rfl

theorem oddQuotes_append (a b : Str) : oddQuotes (a ++ b) = (oddQuotes a != oddQuotes b) := by
  induction a with
  | nil => exact (Bool.false_bne _).symm
  | cons c a ih =>
    rw [List.cons_append, oddQuotes_cons, oddQuotes_cons, ih]
    split
    · cases oddQuotes a <;> cases oddQuotes b <;> rfl
    · rfl

/-- `scan` does the code's `line.count('"') % 2` bookkeeping -/
theorem scan_some {p q : Bool} {l : Str} (h : scan p l = some q) : (p != oddQuotes l) = q := by
  induction l generalizing p with
  | nil => cases h; exact Bool.bne_false _
  | cons c l ih =>
    dsimp only [scan] at h
    rw [oddQuotes_cons]
    by_cases hq : c = '"'
    · rw [if_pos hq] at h ⊢
      rw [← ih h]
      cases p <;> cases oddQuotes l <;> rfl
    · rw [if_neg hq] at h ⊢
      by_cases hb : (c = '\n' ∨ c = '\r') ∧ p = false
      · rw [if_pos hb] at h; cases h
      · rw [if_neg hb] at h; exact ih h

/-- one round of the padding loop on a line that does not end with a quote: `scan` on the line without its last
character gives the `in_quotes` flag after it -/
theorem padLines_snoc (k : Nat) {inq q : Bool} {cur : Str} {c : Char} (hc : c ≠ '"') (h : scan inq cur = some q)
    (ls : List Str) :
    padLines k inq ((cur ++ [c]) :: ls) =
      if q then cur ++ [c] ++ padLines k true ls
      else cur ++ (List.replicate k ',' ++ '\n' :: padLines k false ls) := by
  have : (if oddQuotes (cur ++ [c]) then !inq else inq) = q := by
    rw [oddQuotes_append, oddQuotes_cons, if_neg hc, oddQuotes_nil, Bool.bne_false, ← scan_some h]
    cases inq <;> cases oddQuotes cur <;> rfl
  dsimp only [padLines]
  rw [this, List.dropLast_concat]
  cases q <;> rfl

theorem splitAux_nl (cur s : Str) : splitAux cur ('\n' :: s) = (cur ++ ['\n']) :: splitAux [] s := by
  dsimp only [splitAux]
  rw [if_pos rfl]

theorem splitAux_cr (cur s : Str) : splitAux cur ('\r' :: s) =
    if s.head? = some '\n' then splitAux (cur ++ ['\r']) s else (cur ++ ['\r']) :: splitAux [] s := by
  dsimp only [splitAux]
  rw [if_neg (by decide), if_pos rfl]

theorem splitAux_plain {c : Char} (hn : c ≠ '\n') (hr : c ≠ '\r') (cur s : Str) :
    splitAux cur (c :: s) = splitAux (cur ++ [c]) s := by
  dsimp only [splitAux]
  rw [if_neg hn, if_neg hr]

theorem splitAux_clean (cur t rest : Str) (h : ∀ c ∈ t, c ≠ '\n' ∧ c ≠ '\r') :
    splitAux cur (t ++ '\n' :: rest) = (cur ++ t ++ ['\n']) :: splitAux [] rest := by
  induction t generalizing cur with
  | nil => rw [List.nil_append, splitAux_nl, List.append_nil]
  | cons c t ih =>
    have hc := h c List.mem_cons_self
    rw [List.cons_append, splitAux_plain hc.1 hc.2, ih _ (List.forall_mem_cons.mp h).2,
      List.append_cons cur c t]

/-- The padding loop on one logical row: `cur` is the part of the current physical line already read, `s` the rest of
the row (the line breaks of `cur ++ s` all inside quotes, quotes balanced at its end), then the `\n` that ends the row.
Exactly that `\n` gets the `k` commas. -/
theorem padLines_row (k : Nat) (s cur : Str) (inq : Bool) (rest : Str) (h : scan inq (cur ++ s) = some false) :
    padLines k inq (splitAux cur (s ++ '\n' :: rest)) =
      cur ++ s ++ (List.replicate k ',' ++ '\n' :: padLines k false (splitAux [] rest)) := by
  induction s generalizing cur inq with
  | nil =>
    rw [List.append_nil] at h ⊢
    rw [List.nil_append, splitAux_nl, padLines_snoc k (by decide) h, if_neg Bool.false_ne_true]
  | cons c s ih =>
    rw [List.cons_append, List.append_cons cur c s]
    -- the physical line goes on after `c` …
    have goOn : padLines k inq (splitAux (cur ++ [c]) (s ++ '\n' :: rest)) =
        cur ++ [c] ++ s ++ (List.replicate k ',' ++ '\n' :: padLines k false (splitAux [] rest)) :=
      ih (cur ++ [c]) inq (by rwa [← List.append_cons])
    -- … or ends with it, which `scan` allows only inside quotes
    have stop (hc : c = '\n' ∨ c = '\r') :
        padLines k inq ((cur ++ [c]) :: splitAux [] (s ++ '\n' :: rest)) =
          cur ++ [c] ++ s ++ (List.replicate k ',' ++ '\n' :: padLines k false (splitAux [] rest)) := by
      have hq : c ≠ '"' := by rcases hc with rfl | rfl <;> decide
      rw [scan_append] at h
      obtain ⟨q, hcur, h⟩ := Option.bind_eq_some_iff.mp h
      dsimp only [scan] at h
      rw [if_neg hq] at h
      cases q with
      | false => rw [if_pos ⟨hc, rfl⟩] at h; cases h
      | true =>
        rw [if_neg fun hb => Bool.noConfusion hb.2] at h
        rw [padLines_snoc k hq hcur, if_pos rfl, ih [] true h, List.nil_append, List.append_assoc (cur ++ [c])]
    by_cases hn : c = '\n'
    · subst hn; rw [splitAux_nl]; exact stop (Or.inl rfl)
    · by_cases hr : c = '\r'
      · subst hr; rw [splitAux_cr]; split
        · exact goOn
        · exact stop (Or.inr rfl)
      · rw [splitAux_plain hn hr]; exact goOn

/-- every line break of `s` is inside quotes and the quotes are balanced at its end -/
def closed (s : Str) : Prop := scan false s = some false

theorem closed_append {a b : Str} (ha : closed a) (hb : closed b) : closed (a ++ b) := by
  rw [closed, scan_append, ha]
  exact hb

theorem closed_plain {t : Str} (h : ∀ c ∈ t, c ≠ '"' ∧ c ≠ '\n' ∧ c ≠ '\r') : closed t := by
  induction t with
  | nil => rfl
  | cons c t ih =>
    obtain ⟨h0, h1, h2⟩ := h c List.mem_cons_self
    rw [closed, scan, if_neg h0, if_neg fun hb => hb.1.elim h1 h2]
    exact ih (List.forall_mem_cons.mp h).2

theorem scan_escape (s : Str) : scan true (escape s) = some true := by
  induction s with
  | nil => rfl
  | cons c s ih =>
    rw [escape]
    split
    · rw [scan, if_pos rfl, scan, if_pos rfl]; exact ih
    · rename_i hc; rw [scan, if_neg hc, if_neg fun hb => Bool.noConfusion hb.2]; exact ih

theorem closed_cell (c : Cell) (h : cellOk c = true) : closed (cellBytes c) := by
  cases c with
  | missing => rfl
  | num t =>
    refine closed_plain fun c hc => ?_
    obtain ⟨h0, _, h2, h3, _⟩ := special_eq_false.mp ((tokClean_iff.mp h).2 c hc)
    exact ⟨h0, h2, h3⟩
  | str s =>
    show scan true (escape s ++ ['"']) = some false
    rw [scan_append, scan_escape]
    rfl

theorem closed_joinComma (l : List Str) (h : ∀ a ∈ l, closed a) : closed (joinComma l) := by
  induction l with
  | nil => rfl
  | cons a r ih =>
    have ha := h a List.mem_cons_self
    cases r with
    | nil => exact ha
    | cons b r' => exact closed_append ha (ih fun a ha => h a (List.mem_cons_of_mem _ ha))

theorem padLines_rows (k : Nat) (rows : List (List Cell))
    (hok : ∀ r ∈ rows, ∀ c ∈ r, cellOk c = true) (hne : ∀ r ∈ rows, r ≠ []) :
    padLines k false (splitAux [] (rows.map rowBytes).flatten)
      = ((rows.map (fun r => r ++ List.replicate k Cell.missing)).map rowBytes).flatten := by
  induction rows with
  | nil => rfl
  | cons r rs ih =>
    have hq : closed (joinComma (r.map cellBytes)) := closed_joinComma _ fun a ha => by
      obtain ⟨c, hc, rfl⟩ := List.mem_map.mp ha
      exact closed_cell c (hok r List.mem_cons_self c hc)
    rw [List.map_cons, List.flatten_cons, rowBytes, List.append_assoc, List.singleton_append,
      padLines_row k _ [] false _ hq, ih (List.forall_mem_cons.mp hok).2
        (List.forall_mem_cons.mp hne).2,
      List.map_cons, List.map_cons, List.flatten_cons, rowBytes, joinComma_pad r (hne r List.mem_cons_self) k]
    simp only [List.nil_append, List.append_assoc, List.singleton_append]

theorem splitLines_header (keys : List Str) (h : ∀ k ∈ keys, tokClean k = true) (rest : Str) :
    (splitLines (headerBytes keys ++ rest)).drop 1 = splitAux [] rest := by
  rw [splitLines, headerBytes, List.append_assoc, List.singleton_append, splitAux_clean]
  · rfl
  · intro c hc
    rcases mem_joinComma hc with rfl | ⟨k, hk, hck⟩
    · decide
    · obtain ⟨_, _, h2, h3, _⟩ := special_eq_false.mp ((tokClean_iff.mp (h k hk)).2 c hck)
      exact ⟨h2, h3⟩

theorem run_append (p : PS) (a b : Str) : run p (a ++ b) = run (run p a) b := List.foldl_append ..

theorem run_cons (p : PS) (c : Char) (s : Str) : run p (c :: s) = run (step p c) s := rfl

theorem run_nil (p : PS) : run p [] = p := rfl

theorem step_quoted (q : Bool) (fld : Str) (row : List Cell) (rows : List (List Cell)) (c : Char) :
    step ⟨.quoted, q, fld, row, rows⟩ c =
      if c = '"' then ⟨.qq, q, fld, row, rows⟩ else ⟨.quoted, q, fld ++ [c], row, rows⟩ := rfl

theorem step_qq_quote (q : Bool) (fld : Str) (row : List Cell) (rows : List (List Cell)) :
    step ⟨.qq, q, fld, row, rows⟩ '"' = ⟨.quoted, q, fld ++ ['"'], row, rows⟩ := rfl

theorem step_inField_plain {c : Char} (hc : special c = false) (q : Bool) (fld : Str) (row : List Cell)
    (rows : List (List Cell)) : step ⟨.inField, q, fld, row, rows⟩ c = ⟨.inField, q, fld ++ [c], row, rows⟩ := by
  obtain ⟨_, h1, h2, h3, h4⟩ := special_eq_false.mp hc
  show (if c = ',' then _ else if c = '\n' then _ else if c = '\r' then _ else if c = '#' then _ else _) = _
  rw [if_neg h1, if_neg h2, if_neg h3, if_neg h4]

theorem step_start_plain {c : Char} (hc : special c = false) (row : List Cell)
    (rows : List (List Cell)) : step ⟨.start, false, [], row, rows⟩ c = ⟨.inField, false, [c], row, rows⟩ := by
  obtain ⟨h0, h1, h2, h3, h4⟩ := special_eq_false.mp hc
  show (if c = '"' then _ else if c = ',' then _ else if c = '\n' then _ else if c = '\r' then _ else if c = '#' then _ else _) = _
  rw [if_neg h0, if_neg h1, if_neg h2, if_neg h3, if_neg h4]; rfl

theorem run_quoted_escape (s : Str) (q : Bool) (fld : Str) (row : List Cell) (rows : List (List Cell)) :
    run ⟨.quoted, q, fld, row, rows⟩ (escape s) = ⟨.quoted, q, fld ++ s, row, rows⟩ := by
  induction s generalizing fld with
  | nil => rw [List.append_nil]; rfl
  | cons c s ih =>
    rw [escape, List.append_cons fld c s, ← ih]
    split
    · rename_i hc
      rw [run_cons, run_cons, step_quoted, if_pos rfl, step_qq_quote, hc]
    · rename_i hc
      rw [run_cons, step_quoted, if_neg hc]

theorem run_inField_plain (t : Str) (h : ∀ c ∈ t, special c = false) (q : Bool) (fld : Str) (row : List Cell)
    (rows : List (List Cell)) : run ⟨.inField, q, fld, row, rows⟩ t = ⟨.inField, q, fld ++ t, row, rows⟩ := by
  induction t generalizing fld with
  | nil => rw [List.append_nil]; rfl
  | cons c t ih =>
    rw [run_cons, step_inField_plain (h c List.mem_cons_self), ih (List.forall_mem_cons.mp h).2,
      List.append_cons fld c t]

/-- where the reader stands after the characters of a cell that began at the start of a field -/
def afterCell (row : List Cell) (rows : List (List Cell)) : Cell → PS
  | .missing => ⟨.start, false, [], row, rows⟩
  | .num t => ⟨.inField, false, t, row, rows⟩
  | .str s => ⟨.qq, true, s, row, rows⟩

theorem run_cellBytes (c : Cell) (hok : cellOk c = true) (row : List Cell) (rows : List (List Cell)) :
    run ⟨.start, false, [], row, rows⟩ (cellBytes c) = afterCell row rows c := by
  cases c with
  | missing => rfl
  | num t =>
    have hsp := (tokClean_iff.mp hok).2
    cases t with
    | nil => exact absurd rfl (tokClean_iff.mp hok).1
    | cons c0 t' =>
      rw [cellBytes, run_cons, step_start_plain (hsp c0 List.mem_cons_self),
        run_inField_plain t' (List.forall_mem_cons.mp hsp).2]
      rfl
  | str s =>
    rw [cellBytes, run_cons, run_append]
    exact congrArg (run · ['"']) (run_quoted_escape s true [] row rows)

theorem step_afterCell_comma (c : Cell) (hok : cellOk c = true) (row : List Cell) (rows : List (List Cell)) :
    step (afterCell row rows c) ',' = ⟨.start, false, [], row ++ [c], rows⟩ := by
  cases c with
  | missing => rfl
  | num t => cases t with
    | nil => exact absurd rfl (tokClean_iff.mp hok).1
    | cons _ _ => rfl
  | str s => rfl

theorem step_afterCell_nl (c : Cell) (hok : cellOk c = true) (row : List Cell) (rows : List (List Cell))
    (h : row ≠ [] ∨ c ≠ Cell.missing) :
    step (afterCell row rows c) '\n' = ⟨.start, false, [], [], rows ++ [row ++ [c]]⟩ := by
  cases c with
  | missing => cases row with
    | nil => exact absurd rfl (h.resolve_left (fun h => h rfl))
    | cons _ _ => rfl
  | num t => cases t with
    | nil => exact absurd rfl (tokClean_iff.mp hok).1
    | cons _ _ => rfl
  | str s => rfl

theorem run_row_aux (cells row : List Cell) (rows : List (List Cell)) (hok : ∀ c ∈ cells, cellOk c = true)
    (hne : cells ≠ []) (hvis : row ≠ [] ∨ cells ≠ [Cell.missing]) :
    run ⟨.start, false, [], row, rows⟩ (joinComma (cells.map cellBytes) ++ ['\n'])
      = ⟨.start, false, [], [], rows ++ [row ++ cells]⟩ := by
  induction cells generalizing row with
  | nil => exact absurd rfl hne
  | cons c cs ih =>
    have hc := hok c List.mem_cons_self
    cases cs with
    | nil =>
      show run _ (cellBytes c ++ ['\n']) = _
      rw [run_append, run_cellBytes c hc, run_cons, run_nil, step_afterCell_nl c hc]
      exact hvis.imp_right fun h hm => h (hm ▸ rfl)
    | cons c' cs' =>
      show run _ (cellBytes c ++ ',' :: joinComma ((c' :: cs').map cellBytes) ++ ['\n']) = _
      rw [List.append_assoc, run_append, run_cellBytes c hc, List.cons_append, run_cons, step_afterCell_comma c hc,
        ih (row ++ [c]) (List.forall_mem_cons.mp hok).2 (List.cons_ne_nil _ _)
          (Or.inl (List.append_ne_nil_of_right_ne_nil _ (List.cons_ne_nil _ _))),
        List.append_assoc, List.singleton_append]

theorem rowVisible_ne {cells : List Cell} (h : rowVisible cells = true) : cells ≠ [] ∧ cells ≠ [Cell.missing] := by
  constructor <;> (rintro rfl; exact Bool.false_ne_true h)

theorem run_row (cells : List Cell) (rows : List (List Cell))
    (hok : ∀ c ∈ cells, cellOk c = true) (hvis : rowVisible cells = true) :
    run ⟨.start, false, [], [], rows⟩ (rowBytes cells) = ⟨.start, false, [], [], rows ++ [cells]⟩ :=
  run_row_aux cells [] rows hok (rowVisible_ne hvis).1 (Or.inr (rowVisible_ne hvis).2)

theorem run_rows (rs rows : List (List Cell)) (hok : ∀ r ∈ rs, ∀ c ∈ r, cellOk c = true)
    (hvis : ∀ r ∈ rs, rowVisible r = true) :
    run ⟨.start, false, [], [], rows⟩ (rs.map rowBytes).flatten = ⟨.start, false, [], [], rows ++ rs⟩ := by
  induction rs generalizing rows with
  | nil => rw [List.append_nil]; rfl
  | cons r rs ih =>
    rw [List.map_cons, List.flatten_cons, run_append, run_row r rows (hok r List.mem_cons_self) (hvis r List.mem_cons_self),
      ih _ (List.forall_mem_cons.mp hok).2 (List.forall_mem_cons.mp hvis).2,
      List.append_assoc, List.singleton_append]

theorem parse_table (keys : List Str) (rs : List (List Cell)) (hk : ∀ k ∈ keys, tokClean k = true) (hne : keys ≠ [])
    (hok : ∀ r ∈ rs, ∀ c ∈ r, cellOk c = true) (hvis : ∀ r ∈ rs, rowVisible r = true) :
    readCsv (headerBytes keys ++ (rs.map rowBytes).flatten) = some ⟨keys, rs⟩ := by
  have hh : headerBytes keys = rowBytes (keys.map Cell.num) := by
    simp [headerBytes, rowBytes, List.map_map, Function.comp_def, cellBytes]
  have hvh : rowVisible (keys.map Cell.num) = true := by
    cases keys with
    | nil => exact absurd rfl hne
    | cons k ks => exact rowVisible_iff.mpr (Or.inr ⟨_, List.mem_cons_self, nofun⟩)
  have hokh : ∀ c ∈ keys.map Cell.num, cellOk c = true := List.forall_mem_map.mpr hk
  simp only [readCsv, parse, PS.init]
  rw [hh, run_append, run_row _ [] hokh hvh, run_rows rs _ hok hvis]
  simp [finish, List.map_map, Function.comp_def, Cell.text]

/-- the rows a file with columns `keys` should hold after the dumps `ws` -/
def tableRows (keys : List Str) (ws : List (List (Str × Cell))) : List (List Cell) :=
  ws.map (fun w => keys.map (fun k => lookup k w))

theorem lookup_eq_missing_or_mem (k : Str) (w : List (Str × Cell)) :
    lookup k w = Cell.missing ∨ (k, lookup k w) ∈ w := by
  induction w with
  | nil => exact Or.inl rfl
  | cons a r ih =>
    obtain ⟨k', c⟩ := a
    dsimp only [lookup]
    split
    · rename_i h; exact Or.inr (h ▸ List.mem_cons_self)
    · exact ih.imp_right (List.mem_cons_of_mem _)

theorem lookup_of_mem_nodup (kvs : List (Str × Cell)) (kc : Str × Cell) (hkc : kc ∈ kvs)
    (hnd : (kvs.map Prod.fst).Nodup) : lookup kc.1 kvs = kc.2 := by
  induction kvs with
  | nil => cases hkc
  | cons a r ih =>
    simp only [List.map_cons, List.nodup_cons] at hnd
    rcases List.mem_cons.mp hkc with h' | h'
    · subst h'; exact if_pos rfl
    · have : a.1 ≠ kc.1 := by
        intro heq
        exact hnd.1 (heq ▸ List.mem_map.mpr ⟨kc, h', rfl⟩)
      obtain ⟨k', c'⟩ := a
      simp only [lookup, this, if_false]
      exact ih h' hnd.2

theorem rowVisible_append (a b : List Cell) (h : rowVisible a = true) : rowVisible (a ++ b) = true := by
  rw [rowVisible_iff] at h ⊢
  rcases h with h | ⟨c, hc, hne⟩
  · exact Or.inl (Nat.le_trans h (List.length_append ▸ Nat.le_add_right _ _))
  · exact Or.inr ⟨c, List.mem_append_left _ hc, hne⟩

theorem writeAt_end (data s : Str) : writeAt data data.length s = data ++ s := by
  simp [writeAt]

theorem writeAt_zero_of_le (data s : Str) (h : data.length ≤ s.length) : writeAt data 0 s = s := by
  simp [writeAt, List.drop_eq_nil_of_le h]

theorem length_flatten_map_le {β : Type} (f g : β → Str) (l : List β) (h : ∀ x ∈ l, (f x).length ≤ (g x).length) :
    (l.map f).flatten.length ≤ (l.map g).flatten.length := by
  induction l with
  | nil => exact Nat.le_refl _
  | cons a r ih =>
    simp only [List.map_cons, List.flatten_cons, List.length_append]
    exact Nat.add_le_add (h a List.mem_cons_self) (ih fun x hx => h x (List.mem_cons_of_mem _ hx))

/-- what a successful `write` does, with the tests on the set of new keys turned into tests on `order` -/
theorem write_eq_some {f f' : File} {kvs : List (Str × Cell)} {order : List Str} (hw : f.write kvs order = some f') :
    let row := rowBytes (f'.keys.map (fun k => lookup k kvs))
    let w := headerBytes f'.keys ++ padLines order.length false ((splitLines f.data).drop 1) ++ row
    order.Perm (extraKeys f.keys kvs) ∧ f'.keys = f.keys ++ order ∧
      (order = [] → f'.data = writeAt f.data f.pos row ∧ f'.pos = f.pos + row.length) ∧
      (order ≠ [] → f'.data = writeAt f.data 0 w ∧ f'.pos = w.length) := by
  intro row w
  rw [File.write] at hw
  by_cases hp : order.isPerm (extraKeys f.keys kvs) = true
  · have hperm := List.isPerm_iff.mp hp
    have hnil : (extraKeys f.keys kvs).isEmpty = true ↔ order = [] := by
      rw [List.isEmpty_iff]
      exact ⟨fun h => List.perm_nil.mp (h ▸ hperm), fun h => List.nil_perm.mp (h ▸ hperm)⟩
    refine ⟨hperm, ?_⟩
    by_cases hex : (extraKeys f.keys kvs).isEmpty = true
    · rw [if_pos hp, if_pos hex] at hw; cases hw
      exact ⟨rfl, fun _ => ⟨rfl, rfl⟩, fun h => absurd (hnil.mp hex) h⟩
    · rw [if_pos hp, if_neg hex] at hw; cases hw
      exact ⟨rfl, fun h => absurd (hnil.mpr h) hex, fun _ => hperm.length_eq ▸ ⟨rfl, rfl⟩⟩
  · rw [if_neg hp] at hw; cases hw

theorem runWrites_keys {ws : List (List (Str × Cell) × List Str)} {f f' : File} (h : runWrites f ws = some f') :
    f'.keys = f.keys ++ (ws.map Prod.snd).flatten := by
  induction ws generalizing f with
  | nil => cases h; exact (List.append_nil _).symm
  | cons w ws ih =>
    dsimp only [runWrites] at h
    cases hw : f.write w.1 w.2 with
    | none => rw [hw] at h; cases h
    | some f1 =>
      rw [hw] at h
      obtain ⟨_, hkeys, _⟩ := write_eq_some hw
      rw [ih h, hkeys, List.append_assoc]; rfl

theorem mem_extraKeys {keys : List Str} {kvs : List (Str × Cell)} {k : Str} :
    k ∈ extraKeys keys kvs ↔ (∃ kc ∈ kvs, kc.1 = k) ∧ k ∉ keys := by
  simp [extraKeys, List.mem_filter, List.mem_map]

theorem mem_keys_of_write {f f' : File} {kvs : List (Str × Cell)} {order : List Str}
    (hw : f.write kvs order = some f') {kc : Str × Cell} (hkc : kc ∈ kvs) : kc.1 ∈ f'.keys := by
  obtain ⟨hperm, hkeys', _⟩ := write_eq_some hw
  rw [hkeys']
  by_cases hin : kc.1 ∈ f.keys
  · exact List.mem_append_left _ hin
  · exact List.mem_append_right _ (hperm.mem_iff.mpr (mem_extraKeys.mpr ⟨⟨kc, hkc, rfl⟩, hin⟩))

theorem rowsVisible_of_values {ws : List (List (Str × Cell) × List Str)} (f : File)
    (h : ∀ w ∈ ws, kvsOk w.1 = true ∧ ∃ kc ∈ w.1, kc.2 ≠ Cell.missing) : rowsVisible f ws = true := by
  induction ws generalizing f with
  | nil => rfl
  | cons w ws ih =>
    rw [rowsVisible]
    cases hw : f.write w.1 w.2 with
    | none => rfl
    | some f' =>
      rw [Bool.and_eq_true]
      refine ⟨?_, ih f' (List.forall_mem_cons.mp h).2⟩
      obtain ⟨hok, kc, hkc, hne⟩ := h w List.mem_cons_self
      -- the key of that value is a column, and its cell is the value
      have hin : kc.1 ∈ f'.keys := mem_keys_of_write hw hkc
      have hlk : lookup kc.1 w.1 = kc.2 :=
        lookup_of_mem_nodup w.1 kc hkc (kvsOk_iff.mp hok).1.2
      exact rowVisible_iff.mpr (Or.inr ⟨kc.2, List.mem_map.mpr ⟨kc.1, hin, hlk⟩, hne⟩)

/-- the characters of a file with columns `keys` after the dumps `ws` -/
def content (keys : List Str) (ws : List (List (Str × Cell))) : Str :=
  headerBytes keys ++ ((tableRows keys ws).map rowBytes).flatten

theorem content_snoc (keys : List Str) (ws : List (List (Str × Cell))) (kvs : List (Str × Cell)) :
    content keys (ws ++ [kvs]) = content keys ws ++ rowBytes (keys.map (fun k => lookup k kvs)) := by
  simp only [content, tableRows, List.map_append, List.flatten_append, List.map_cons, List.map_nil,
    List.flatten_cons, List.flatten_nil, List.append_nil, List.append_assoc]

theorem tableRows_append_keys (keys order : List Str) (ws : List (List (Str × Cell)))
    (hsub : ∀ w ∈ ws, ∀ kc ∈ w, kc.1 ∈ keys) (hnew : ∀ k ∈ order, k ∉ keys) :
    tableRows (keys ++ order) ws
      = (tableRows keys ws).map (fun r => r ++ List.replicate order.length Cell.missing) := by
  rw [tableRows, tableRows, List.map_map]
  refine List.map_congr_left fun w hw => ?_
  rw [Function.comp, List.map_append]
  refine congrArg _ (List.eq_replicate_iff.mpr ⟨List.length_map _, fun c hc => ?_⟩)
  obtain ⟨k, hk, rfl⟩ := List.mem_map.mp hc
  exact (lookup_eq_missing_or_mem k w).resolve_right fun hm => hnew k hk (hsub w hw _ hm)

theorem length_content_le (keys order : List Str) (ws : List (List (Str × Cell))) :
    (content keys ws).length ≤ (content (keys ++ order) ws).length := by
  rw [content, content, tableRows, tableRows, List.length_append, List.length_append, List.map_map, List.map_map]
  refine Nat.add_le_add ?_ (length_flatten_map_le _ _ _ fun w _ => ?_)
  · rw [headerBytes, headerBytes, List.length_append, List.length_append]
    exact Nat.add_le_add_right (length_joinComma_le_append _ _) _
  · rw [Function.comp, Function.comp, rowBytes, rowBytes, List.length_append, List.length_append, List.map_append,
      List.map_append]
    exact Nat.add_le_add_right (length_joinComma_le_append _ _) _

/-- the file is the header plus one row per dump, and the file object stands at its end -/
structure Inv (f : File) (ws : List (List (Str × Cell))) : Prop where
  clean : ∀ k ∈ f.keys, tokClean k = true
  sub : ∀ w ∈ ws, ∀ kc ∈ w, kc.1 ∈ f.keys
  cells : ∀ w ∈ ws, ∀ kc ∈ w, cellOk kc.2 = true
  vis : ∀ w ∈ ws, rowVisible (f.keys.map (fun k => lookup k w)) = true
  data : f.data = if ws = [] then [] else content f.keys ws
  keys0 : ws = [] → f.keys = []
  /-- no stale tail is ever left behind -/
  atEnd : f.pos = f.data.length

theorem Inv.empty : Inv File.empty [] :=
  ⟨nofun, nofun, nofun, nofun, rfl, fun _ => rfl, rfl⟩

theorem Inv.cellOk_tableRows {f : File} {ws : List (List (Str × Cell))} (inv : Inv f ws) :
    ∀ r ∈ tableRows f.keys ws, ∀ c ∈ r, cellOk c = true := by
  intro r hr c hc
  obtain ⟨w, hw, rfl⟩ := List.mem_map.mp hr
  obtain ⟨k, _, rfl⟩ := List.mem_map.mp hc
  exact (lookup_eq_missing_or_mem k w).elim (fun e => e ▸ rfl) (inv.cells w hw _)

theorem Inv.rowVisible_tableRows {f : File} {ws : List (List (Str × Cell))} (inv : Inv f ws) :
    ∀ r ∈ tableRows f.keys ws, rowVisible r = true := by
  intro r hr
  obtain ⟨w, hw, rfl⟩ := List.mem_map.mp hr
  exact inv.vis w hw

theorem Inv.step {f f' : File} {ws : List (List (Str × Cell))} {kvs : List (Str × Cell)} {order : List Str}
    (inv : Inv f ws) (hk : kvsOk kvs = true) (hw : f.write kvs order = some f')
    (hv : rowVisible (f'.keys.map (fun k => lookup k kvs)) = true) : Inv f' (ws ++ [kvs]) := by
  obtain ⟨⟨hkclean, _⟩, hkcells⟩ := kvsOk_iff.mp hk
  obtain ⟨hperm, hkeys', hsame, hnew⟩ := write_eq_some hw
  have hmem : ∀ k, k ∈ order ↔ (∃ kc ∈ kvs, kc.1 = k) ∧ k ∉ f.keys := fun k => hperm.mem_iff.trans mem_extraKeys
  have hold := tableRows_append_keys f.keys order ws inv.sub fun k hk => ((hmem k).mp hk).2
  have hchars : f'.data = content f'.keys (ws ++ [kvs]) ∧ f'.pos = f'.data.length := by
    rw [content_snoc]
    by_cases hord : order = []
    · -- no new column: the row is appended where the file object stands, at the end
      obtain ⟨hd, hp⟩ := hsame hord
      rw [hord, List.append_nil] at hkeys'
      have hws : ws ≠ [] := by
        -- nothing new and nothing before: the row would be blank
        rintro rfl
        rw [hkeys', inv.keys0 rfl] at hv
        exact Bool.false_ne_true hv
      rw [hd, hp, inv.atEnd, writeAt_end, inv.data, if_neg hws, hkeys']
      exact ⟨rfl, (List.length_append ..).symm⟩
    · -- new columns: the file is rewritten from the start
      obtain ⟨hd, hp⟩ := hnew hord
      rw [hd, hp]
      have hpad : padLines order.length false ((splitLines f.data).drop 1)
          = ((tableRows f'.keys ws).map rowBytes).flatten := by
        by_cases hws : ws = []
        · rw [inv.data, if_pos hws, hws]; rfl
        · rw [inv.data, if_neg hws, content, splitLines_header f.keys inv.clean,
            padLines_rows _ _ inv.cellOk_tableRows fun r hr => (rowVisible_ne (inv.rowVisible_tableRows r hr)).1,
            hkeys', hold]
      rw [hpad, ← content]
      -- the rewritten content is at least as long as the old one: nothing stale remains
      have hlen : f.data.length ≤ (content f'.keys ws ++ rowBytes (f'.keys.map (fun k => lookup k kvs))).length := by
        rw [inv.data, List.length_append]
        split
        · exact Nat.zero_le _
        · exact Nat.le_trans (hkeys' ▸ length_content_le f.keys order ws) (Nat.le_add_right _ _)
      rw [writeAt_zero_of_le _ _ hlen]
      exact ⟨rfl, rfl⟩
  have hsnoc : ws ++ [kvs] ≠ [] := List.append_ne_nil_of_right_ne_nil _ (List.cons_ne_nil _ _)
  refine {
    clean := hkeys' ▸ List.forall_mem_append.mpr ⟨inv.clean, fun k h => ?_⟩
    sub := List.forall_mem_append.mpr ⟨fun w h kc hkc => hkeys' ▸ List.mem_append_left _ (inv.sub w h kc hkc),
      List.forall_mem_singleton.mpr fun kc hkc => mem_keys_of_write hw hkc⟩
    cells := List.forall_mem_append.mpr ⟨inv.cells, List.forall_mem_singleton.mpr hkcells⟩
    vis := List.forall_mem_append.mpr ⟨fun w h => ?_, List.forall_mem_singleton.mpr hv⟩
    data := by rw [hchars.1, if_neg hsnoc]
    keys0 := fun h => absurd h hsnoc
    atEnd := hchars.2 }
  · obtain ⟨⟨kc, hkc, rfl⟩, _⟩ := (hmem k).mp h
    exact hkclean kc.1 (List.mem_map_of_mem hkc)
  · rw [hkeys', List.map_append]
    exact rowVisible_append _ _ (inv.vis w h)

theorem Inv.run {ws : List (List (Str × Cell) × List Str)} {f0 f : File} {ws0 : List (List (Str × Cell))}
    (inv : Inv f0 ws0) (hr : runWrites f0 ws = some f) (hok : ∀ w ∈ ws, kvsOk w.1 = true)
    (hvis : rowsVisible f0 ws = true) : Inv f (ws0 ++ ws.map Prod.fst) := by
  induction ws generalizing f0 ws0 with
  | nil =>
    cases hr
    rwa [List.map_nil, List.append_nil]
  | cons w ws ih =>
    dsimp only [runWrites] at hr
    dsimp only [rowsVisible] at hvis
    cases hw : f0.write w.1 w.2 with
    | none => rw [hw] at hr; cases hr
    | some f1 =>
      rw [hw] at hr hvis
      rw [Bool.and_eq_true] at hvis
      have := ih (inv.step (hok w List.mem_cons_self) hw hvis.1) hr (List.forall_mem_cons.mp hok).2 hvis.2
      rwa [List.append_assoc] at this

/-- a file built by writes in which no blank row was written reads back as the column list and, for every dump, the
cell of every column (`missing` where the dump had no value) -/
theorem Inv.readCsv {f : File} {ws : List (List (Str × Cell))} (inv : Inv f ws) (hne : ws ≠ []) :
    readCsv f.data = some ⟨f.keys, tableRows f.keys ws⟩ := by
  have hkeys : f.keys ≠ [] := by
    obtain ⟨w, hw⟩ := List.exists_mem_of_ne_nil _ hne
    intro h0
    have := (rowVisible_ne (inv.vis w hw)).1
    rw [h0] at this; exact this rfl
  rw [inv.data, if_neg hne]
  exact parse_table f.keys _ inv.clean hkeys inv.cellOk_tableRows inv.rowVisible_tableRows

end SB3Verif.Csv.Lemmas
