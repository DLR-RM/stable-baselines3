/-
A ring buffer of `m` slots keeps add number `a` in slot `a % m`. What the replay buffers (`Lemmas/Replay.lean`,
`Lemmas/Her.lean`) need of that: add numbers less than `m` apart have different slots, the cursor after an add,
reading a list after one write or one append, and the window of the most recent adds that an array holds (`Win`).
Core `Nat` and `List` only.
-/
namespace SB3Verif.RingIndex

theorem eq_of_mod_eq {a b m : Nat} (h : a % m = b % m) (h1 : a ≤ b) (h2 : b < a + m) : a = b := by
  have h3 : (b - a) % m = 0 := Nat.sub_mod_eq_zero_of_mod_eq h.symm
  rw [Nat.mod_eq_of_lt (Nat.sub_lt_left_of_lt_add h1 h2)] at h3
  exact Nat.le_antisymm h1 (Nat.le_of_sub_eq_zero h3)

theorem mod_inj {a b m : Nat} (h : a % m = b % m) (h1 : a < b + m) (h2 : b < a + m) : a = b :=
  (Nat.le_total a b).elim (fun hab => eq_of_mod_eq h hab h2) (fun hba => (eq_of_mod_eq h.symm hba h1).symm)

theorem mod_ne_of_lt {a b m : Nat} (h1 : a < b) (h2 : b < a + m) : a % m ≠ b % m :=
  fun h => Nat.ne_of_lt h1 (eq_of_mod_eq h (Nat.le_of_lt h1) h2)

/-- `pos += 1; if pos == buffer_size: pos = 0` keeps `pos` the number of adds modulo the capacity. -/
theorem cursor_step {m p L L' : Nat} (hm : 0 < m) (hp : p = L % m) (hL : L' = L + 1) :
    (if p + 1 = m then 0 else p + 1) = L' % m := by
  subst hp hL
  rw [← Nat.mod_add_mod]
  split
  · next h => rw [h, Nat.mod_self]
  · next h => exact (Nat.mod_eq_of_lt (Nat.lt_of_le_of_ne (Nat.mod_lt L hm) h)).symm

section getD
variable {α : Type _} {l : List α} {d : α}

theorem getD_set_self {i : Nat} (h : i < l.length) (v : α) : (l.set i v).getD i d = v := by
  rw [List.getD_eq_getElem?_getD, List.getElem?_set_self h, Option.getD_some]

theorem getD_set_ne {i j : Nat} (h : i ≠ j) (v : α) : (l.set i v).getD j d = l.getD j d := by
  rw [List.getD_eq_getElem?_getD, List.getElem?_set_ne h, List.getD_eq_getElem?_getD]

theorem getD_concat_length (l : List α) (x : α) : (l ++ [x]).getD l.length d = x := by
  rw [List.getD_eq_getElem?_getD, List.getElem?_concat_length, Option.getD_some]

theorem getD_concat_lt (x : α) {i : Nat} (h : i < l.length) : (l ++ [x]).getD i d = l.getD i d := by
  rw [List.getD_eq_getElem?_getD, List.getElem?_append_left h, List.getD_eq_getElem?_getD]

end getD

/-- `A` holds, at slot `a % cap`, the value `g a` for each of the `cap - k` most recent of the indices below `L`. -/
def Win {β : Type} (k : Nat) (A : List β) (d : β) (cap L : Nat) (g : Nat → β) : Prop :=
  ∀ a, a < L → L + k ≤ a + cap → A.getD (a % cap) d = g a

section window
variable {β : Type} {A : List β} {d : β} {cap L : Nat} {g : Nat → β}

/-- One write at the cursor: slot `L % cap` now holds index `L`, and no other index of the new window lives
there. -/
theorem ring_push {A' : List β} {k p L' : Nat} {v : β} {g' : Nat → β} (hA : A.length = cap) (hc : 0 < cap)
    (h : Win k A d cap L g) (hv : g' L = v) (hg : ∀ a, a < L → g' a = g a) (hp : p = L % cap)
    (hA' : A' = A.set p v) (hL : L' = L + 1) : Win k A' d cap L' g' := by
  subst hp hA' hL
  intro a ha hw
  rcases Nat.lt_succ_iff_lt_or_eq.mp ha with hlt | rfl
  · rw [getD_set_ne (mod_ne_of_lt hlt (Nat.lt_of_lt_of_le (Nat.lt_add_right k (Nat.lt_succ_self L)) hw)).symm,
      hg a hlt, h a hlt (Nat.le_of_succ_le (Nat.le_trans (Nat.le_of_eq (Nat.add_right_comm L k 1)) hw))]
  · rw [getD_set_self (Nat.lt_of_lt_of_eq (Nat.mod_lt a hc) hA.symm), hv]

theorem Win.nil (k : Nat) (A : List β) (d : β) (cap : Nat) (g : Nat → β) : Win k A d cap 0 g :=
  fun a ha => absurd ha (Nat.not_lt_zero a)

end window

end SB3Verif.RingIndex
