/-
Lemmas for C17 (model: `SB3Verif/Model/Wrappers.lean`); core Lean only.

Frame stacking. A row of the window holds the padded frames of the current episode: `updateRow_spec` says what one
`update` makes of such a row, `updateArr_spec` lifts it to arrays cut into rows (`stackOf` is the specification; `specArr`
is the same array written row by row and lives only in that proof), `fsRun_spec` to histories.
Stacks of wrappers. Three facts about one wrapper, each lifted to stacks by induction: everything but the observations
passes through; the terminal observation that comes out is the wrapper's answer to the one that went in
(`stackStep_terminal_alike`); `reset` is a step that ends an episode (`stackReset_eq_step`).
Declared space. One invariant per wrapper (`WSInv`: signature of the observations and a key-wise property of their
entries, going in and coming out), kept by `step`, established by the constructors and chained along a stack
(`StackInv`); by the last two facts nothing else is needed for histories (`stackOutputs_inv`).
-/
import SB3Verif.Model.Wrappers

namespace SB3Verif.Lemmas.Wrappers

open SB3Verif.Wrappers

theorem paddedFrames_eq_drop {α : Type} (n : Nat) (z : α) (ep : List α) :
    paddedFrames n z ep = (List.replicate n z ++ ep).drop ep.length := by
  simp [paddedFrames, List.drop_append, List.drop_replicate]

theorem paddedFrames_length {α : Type} (n : Nat) (z : α) (ep : List α) :
    (paddedFrames n z ep).length = n := by
  rw [paddedFrames_eq_drop, List.length_drop, List.length_append, List.length_replicate, Nat.add_sub_cancel]

theorem paddedFrames_nil {α : Type} (n : Nat) (z : α) : paddedFrames n z [] = List.replicate n z := by
  simp [paddedFrames]

theorem paddedFrames_singleton {α : Type} (n : Nat) (hn : 0 < n) (z x : α) :
    paddedFrames n z [x] = List.replicate (n - 1) z ++ [x] := by
  have : 1 - n = 0 := by omega
  simp [paddedFrames, this]

theorem paddedFrames_push {α : Type} (n : Nat) (hn : 0 < n) (z x : α) (ep : List α) :
    paddedFrames n z (ep ++ [x]) = (paddedFrames n z ep).drop 1 ++ [x] := by
  rw [paddedFrames_eq_drop, paddedFrames_eq_drop, List.drop_drop, ← List.append_assoc,
    List.length_append, List.length_singleton]
  rw [List.drop_append_of_le_length]
  simp; omega

theorem paddedFrames_map {α β : Type} (g : α → β) (n : Nat) (z : α) (ep : List α) :
    (paddedFrames n z ep).map g = paddedFrames n (g z) (ep.map g) := by
  simp [paddedFrames, List.map_drop]

theorem mem_paddedFrames {α : Type} (n : Nat) (z : α) (ep : List α) (x : α)
    (hx : x ∈ paddedFrames n z ep) : x = z ∨ x ∈ ep := by
  simp only [paddedFrames, List.mem_append, List.mem_replicate] at hx
  rcases hx with h | h
  · exact Or.inl h.2
  · exact Or.inr (List.mem_of_mem_drop h)

theorem flatten_length_uniform (c : Nat) (P : List (List Int)) (h : ∀ f ∈ P, f.length = c) :
    P.flatten.length = P.length * c := by
  rw [List.length_flatten, List.map_congr_left (g := fun _ => c) h, List.map_const', List.sum_replicate_nat]

theorem frames_uniform (n c : Nat) (ep : List (List Int)) (h : ∀ f ∈ ep, f.length = c) :
    ∀ f ∈ paddedFrames n (List.replicate c (0 : Int)) ep, f.length = c := by
  intro f hf
  rcases mem_paddedFrames _ _ _ _ hf with h1 | h1
  · simp [h1]
  · exact h f h1

theorem paddedRow_length (n c : Nat) (ep : List (List Int)) (h : ∀ f ∈ ep, f.length = c) :
    (paddedRow n c ep).length = n * c := by
  unfold paddedRow
  rw [flatten_length_uniform c _ (frames_uniform n c ep h), paddedFrames_length]

theorem roll_append (a b : List Int) : roll a.length (a ++ b) = b ++ a := by
  unfold roll
  cases b with
  | nil => rw [List.append_nil, Nat.mod_self, List.drop_zero, List.take_zero, List.append_nil, List.nil_append]
  | cons x b => rw [Nat.mod_eq_of_lt (by simp), List.drop_left, List.take_left]

/-- Python `l[:-c]`; `l[:-0]` is empty, hence the hypothesis -/
theorem sliceTo_append (a b : List Int) (h : a.length = 0 → b = []) : sliceTo a.length (b ++ a) = b := by
  unfold sliceTo
  split
  · exact (h ‹_›).symm
  · rw [List.length_append, Nat.add_sub_cancel, List.take_left]

theorem roll_length (c : Nat) (l : List Int) : (roll c l).length = l.length := by
  rw [roll, List.length_append, Nat.add_comm, ← List.length_append, List.take_append_drop]

theorem updateRow_done_eq_resetRow (buf obs : List Int) (t : Option (List Int)) :
    (updateRow buf obs true t).1 = resetRow buf obs := by
  simp only [updateRow, resetRow, if_true, roll_length]

theorem resetRow_spec (n c : Nat) (hn : 0 < n) (buf obs : List Int) (hb : buf.length = n * c)
    (ho : obs.length = c) : resetRow buf obs = paddedRow n c [obs] := by
  unfold resetRow paddedRow assignTail
  rw [paddedFrames_singleton n hn, ho, hb]
  by_cases hc : c = 0
  · subst hc; simp [sliceTo]
  · simp only [sliceTo, hc, if_false, List.length_replicate, List.take_replicate]
    have : min (n * c - c) (n * c) = (n - 1) * c := by
      rw [Nat.sub_mul]; simp
    simp [this]

theorem updateRow_spec (n c : Nat) (hn : 0 < n) (ep : List (List Int)) (obs : List Int) (done : Bool)
    (term : Option (List Int)) (hep : ∀ f ∈ ep, f.length = c) (ho : obs.length = c) :
    updateRow (paddedRow n c ep) obs done term =
      if done then (paddedRow n c [obs], term.map fun t => paddedRow n c (ep ++ [t]))
      else (paddedRow n c (ep ++ [obs]), term) := by
  -- rolling by one frame and cutting the last frame leaves the window without its oldest frame
  have hcut : ∀ x : List Int, sliceTo c (roll c (paddedRow n c ep)) ++ x = paddedRow n c (ep ++ [x]) := by
    intro x
    have hP := frames_uniform n c ep hep
    have hlen := paddedFrames_length n (List.replicate c (0 : Int)) ep
    unfold paddedRow
    rw [paddedFrames_push n hn]
    generalize paddedFrames n (List.replicate c (0 : Int)) ep = P at hP hlen
    cases P with
    | nil => simp at hlen; omega
    | cons f rest =>
      have hr : c = 0 → rest.flatten = [] := fun h0 => List.eq_nil_of_length_eq_zero (by
        rw [flatten_length_uniform c rest fun g hg => hP g (List.mem_cons_of_mem _ hg), h0, Nat.mul_zero])
      cases hP f List.mem_cons_self
      rw [List.flatten_cons, roll_append, sliceTo_append _ _ hr]
      simp
  cases done with
  | false =>
    simp only [updateRow, ho, assignTail, Bool.false_eq_true, if_false]
    rw [hcut]
  | true =>
    rw [if_pos rfl]
    refine Prod.ext ?_ ?_
    · rw [updateRow_done_eq_resetRow]
      exact resetRow_spec n c hn _ obs (paddedRow_length n c ep hep) ho
    · simp only [updateRow, ho, if_true]
      cases term with
      | none => rfl
      | some t => simp only [Option.map_some, hcut]

theorem rowRun_spec (n c : Nat) (hn : 0 < n) (h : List REv) :
    ∀ (ep : List (List Int)), (∀ f ∈ ep, f.length = c) → (∀ e ∈ h, ∀ f ∈ e.frames, f.length = c) →
      rowRun (paddedRow n c ep) h = paddedRow n c (rowEpisode ep h) := by
  induction h with
  | nil => intro ep _ _; rfl
  | cons e rest ih =>
    intro ep hep hh
    have hrest : ∀ e' ∈ rest, ∀ f ∈ e'.frames, f.length = c := fun e' he' => hh e' (List.mem_cons_of_mem _ he')
    have he := hh e List.mem_cons_self
    cases e with
    | reset o =>
      have ho : o.length = c := he o List.mem_cons_self
      simp only [rowRun, rowEpisode]
      rw [resetRow_spec n c hn _ o (paddedRow_length n c ep hep) ho]
      exact ih [o] (List.forall_mem_singleton.mpr ho) hrest
    | step o d t =>
      have ho : o.length = c := he o (by cases t <;> exact List.mem_cons_self)
      simp only [rowRun]
      rw [updateRow_spec n c hn ep o d t hep ho]
      cases d with
      | false => exact ih (ep ++ [o]) (List.forall_mem_append.mpr ⟨hep, List.forall_mem_singleton.mpr ho⟩) hrest
      | true => exact ih [o] (List.forall_mem_singleton.mpr ho) hrest

theorem flatMap_range_congr {β : Type} (m : Nat) (F G : Nat → List β) (h : ∀ r, r < m → F r = G r) :
    (List.range m).flatMap F = (List.range m).flatMap G := by
  rw [List.flatMap_def, List.flatMap_def]
  congr 1
  apply List.map_congr_left
  intro r hr
  exact h r (List.mem_range.mp hr)

theorem length_flatMap_uniform {α : Type} (C : Nat) (g : α → List Int) (fs : List α)
    (hg : ∀ f ∈ fs, (g f).length = C) : (fs.flatMap g).length = fs.length * C := by
  rw [List.length_flatMap, List.map_congr_left (g := fun _ => C) hg, List.map_const', List.sum_replicate_nat]

theorem length_flatMap_congr (m : Nat) (F G : Nat → List Int) (h : ∀ r, r < m → (F r).length = (G r).length) :
    ((List.range m).flatMap F).length = ((List.range m).flatMap G).length := by
  rw [List.length_flatMap, List.length_flatMap, List.map_congr_left fun r hr => h r (List.mem_range.mp hr)]

theorem flatMap_const_replicate (m K : Nat) (v : Int) :
    ((List.range m).flatMap fun _ => List.replicate K v) = List.replicate (m * K) v := by
  rw [List.flatMap_def, List.map_const', List.flatten_replicate_replicate, List.length_range]

theorem flatMap_replicate_const (P n : Nat) (v : Int) :
    (List.replicate P v).flatMap (fun x => List.replicate n x) = List.replicate (P * n) v := by
  rw [List.flatMap_replicate, List.flatten_replicate_replicate]

theorem row_flatMap {α : Type} (C : Nat) (g : α → List Int) (fs : List α) (hg : ∀ f ∈ fs, (g f).length = C)
    (i : Nat) (hi : i < fs.length) : row C i (fs.flatMap g) = g fs[i] := by
  induction fs generalizing i with
  | nil => cases hi
  | cons f rest ih =>
    have hf := hg f List.mem_cons_self
    cases i with
    | zero =>
      simp only [row, Nat.zero_mul, List.drop_zero, List.flatMap_cons, List.getElem_cons_zero]
      exact List.take_left' hf
    | succ i =>
      have h := ih (fun f' hf' => hg f' (List.mem_cons_of_mem _ hf')) i (Nat.lt_of_succ_lt_succ hi)
      simp only [row, List.flatMap_cons, List.getElem_cons_succ] at h ⊢
      rw [show (i + 1) * C = C + i * C by rw [Nat.succ_mul, Nat.add_comm], ← List.drop_drop, List.drop_left' hf]
      exact h

theorem row_flatMap_uniform (K m : Nat) (F : Nat → List Int) (hF : ∀ r, r < m → (F r).length = K)
    (r : Nat) (hr : r < m) : row K r ((List.range m).flatMap F) = F r := by
  have h := row_flatMap K F (List.range m) (fun f hf => hF f (List.mem_range.mp hf)) r (by rw [List.length_range]; exact hr)
  rwa [List.getElem_range] at h

theorem getD_row (k r p : Nat) (d : List Int) (hp : p < k) : (row k r d).getD p 0 = d.getD (r * k + p) 0 := by
  simp only [row, List.getD_eq_getElem?_getD, List.getElem?_take, hp, if_true, List.getElem?_drop]

theorem getD_flatMap {α : Type} (C : Nat) (g : α → List Int) (fs : List α) (hg : ∀ f ∈ fs, (g f).length = C)
    (i c : Nat) (hi : i < fs.length) (hc : c < C) :
    (fs.flatMap g).getD (i * C + c) 0 = (g fs[i]).getD c 0 := by
  rw [← getD_row C i c _ hc, row_flatMap C g fs hg i hi]

theorem row_length_eq (k r : Nat) (d : List Int) : (row k r d).length = min k (d.length - r * k) := by
  simp [row]

theorem row_length (k r : Nat) (d : List Int) (h : (r + 1) * k ≤ d.length) : (row k r d).length = k := by
  rw [row_length_eq]
  exact Nat.min_eq_left (Nat.le_sub_of_add_le' (Nat.succ_mul r k ▸ h))

theorem row_replicate (k r P : Nat) (v : Int) (h : (r + 1) * k ≤ P) :
    row k r (List.replicate P v) = List.replicate k v := by
  simp only [row, List.drop_replicate, List.take_replicate]
  rw [Nat.min_eq_left (Nat.le_sub_of_add_le' (Nat.succ_mul r k ▸ h))]

theorem mem_row (k r : Nat) (d : List Int) (x : Int) (h : x ∈ row k r d) : x ∈ d :=
  List.mem_of_mem_drop (List.mem_of_mem_take h)

theorem prod_dropLast (s : List Nat) : prod s = prod s.dropLast * lastDim s := by
  induction s with
  | nil => simp [prod, lastDim]
  | cons d rest ih =>
    cases rest with
    | nil => simp [prod, lastDim]
    | cons e r =>
      have : lastDim (d :: e :: r) = lastDim (e :: r) := by simp [lastDim, List.getLastD]
      simp only [List.dropLast_cons_cons, prod, this] at ih ⊢
      rw [ih, Nat.mul_assoc]

theorem prod_append (a b : List Nat) : prod (a ++ b) = prod a * prod b := by
  induction a with
  | nil => simp [prod]
  | cons d r ih => simp [prod, ih, Nat.mul_assoc]

/-- length of a row of a frame of shape `shape` along the stacking axis -/
def kOf (first : Bool) (shape : List Nat) : Nat := if first then prod shape else lastDim shape
/-- number of such rows in the frame -/
def mOf (first : Bool) (shape : List Nat) : Nat := prod shape / kOf first shape

theorem kOf_first (shape : List Nat) : kOf true shape = prod shape := rfl
theorem kOf_last (shape : List Nat) : kOf false shape = lastDim shape := rfl

theorem concatFrames_eq (first : Bool) (shape : List Nat) (frames : List Arr) :
    concatFrames first shape frames = ⟨stackedShape frames.length first shape,
      (List.range (mOf first shape)).flatMap fun r => frames.flatMap fun f => row (kOf first shape) r f.data⟩ := by
  simp only [concatFrames, mOf, kOf, rowLen, Arr.zeros, List.length_replicate]

theorem kOf_pos_prod_eq (first : Bool) (shape : List Nat) (hpos : 0 < prod shape) :
    0 < kOf first shape ∧ prod shape = mOf first shape * kOf first shape := by
  cases first with
  | true =>
    simp only [mOf, kOf_first]
    exact ⟨hpos, by rw [Nat.div_self hpos]; simp⟩
  | false =>
    simp only [mOf, kOf_last]
    have h := prod_dropLast shape
    have hl : 0 < lastDim shape := by
      rcases Nat.eq_zero_or_pos (lastDim shape) with h0 | h0
      · rw [h0] at h; omega
      · exact h0
    refine ⟨hl, ?_⟩
    conv => rhs; rw [h, Nat.mul_div_cancel _ hl]
    exact h

theorem mOf_mul (first : Bool) (n : Nat) (shape : List Nat) (hpos : 0 < prod shape) :
    mOf first shape * (n * kOf first shape) = n * prod shape := by
  rw [Nat.mul_left_comm, ← (kOf_pos_prod_eq first shape hpos).2]

theorem row_le_prod (first : Bool) (shape : List Nat) (hpos : 0 < prod shape) (r : Nat) (hr : r < mOf first shape) :
    (r + 1) * kOf first shape ≤ prod shape := by
  rw [(kOf_pos_prod_eq first shape hpos).2]; exact Nat.mul_le_mul_right _ hr

theorem rowLen_frame (first : Bool) (shape : List Nat) (a : Arr) (h : FrameOK shape a) :
    rowLen first a = kOf first shape := by
  cases first with
  | true => simp [rowLen, kOf_first, h.2]
  | false => simp [rowLen, kOf_last, h.1]

theorem frame_row_length (first : Bool) (shape : List Nat) (hpos : 0 < prod shape) (a : Arr) (ha : FrameOK shape a)
    (r : Nat) (hr : r < mOf first shape) : (row (kOf first shape) r a.data).length = kOf first shape :=
  row_length _ _ _ (ha.2 ▸ row_le_prod first shape hpos r hr)

theorem stackedShape_ne_nil (n : Nat) (first : Bool) (s : List Nat) (h : s ≠ []) : stackedShape n first s ≠ [] := by
  cases first with
  | true =>
    cases s with
    | nil => exact absurd rfl h
    | cons d ds => simp [stackedShape]
  | false =>
    rw [← List.dropLast_concat_getLast h]
    simp [stackedShape]

theorem lastDim_stackedShape (n : Nat) (shape : List Nat) (hne : shape ≠ []) :
    lastDim (stackedShape n false shape) = lastDim shape * n := by
  rw [← List.dropLast_concat_getLast hne]
  simp [stackedShape, lastDim]

theorem prod_stackedShape (first : Bool) (n : Nat) (shape : List Nat) (hne : shape ≠ []) :
    prod (stackedShape n first shape) = n * prod shape := by
  cases first with
  | true =>
    cases shape with
    | nil => exact absurd rfl hne
    | cons d ds =>
      simp only [stackedShape, if_true, prod]
      rw [Nat.mul_comm d n, Nat.mul_assoc]
  | false =>
    rw [← List.dropLast_concat_getLast hne]
    simp only [stackedShape, Bool.false_eq_true, if_false, List.reverse_append, List.reverse_cons, List.reverse_nil,
      List.nil_append, List.cons_append, List.reverse_reverse, prod_append, prod, Nat.mul_one]
    rw [Nat.mul_comm n, Nat.mul_assoc]

/-- the stack as rows: row `r` of the window is the padded row stack of the rows `r` of the episode's frames -/
def specData (first : Bool) (n : Nat) (shape : List Nat) (ep : List Arr) : List Int :=
  (List.range (mOf first shape)).flatMap fun r =>
    paddedRow n (kOf first shape) (ep.map fun f => row (kOf first shape) r f.data)

def specArr (first : Bool) (n : Nat) (shape : List Nat) (ep : List Arr) : Arr :=
  ⟨stackedShape n first shape, specData first n shape ep⟩

theorem stackOf_eq_specArr (first : Bool) (n : Nat) (shape : List Nat) (hpos : 0 < prod shape) (ep : List Arr) :
    stackOf first n shape ep = specArr first n shape ep := by
  rw [stackOf, concatFrames_eq, paddedFrames_length]
  refine congrArg (Arr.mk _) (flatMap_range_congr _ _ _ fun r hr => ?_)
  rw [List.flatMap_def, paddedFrames_map (fun f : Arr => row (kOf first shape) r f.data)]
  exact congrArg (fun z => (paddedFrames n z _).flatten) (row_replicate _ r _ 0 (row_le_prod first shape hpos r hr))

theorem rows_uniform (first : Bool) (shape : List Nat) (hpos : 0 < prod shape) (ep : List Arr)
    (hep : ∀ f ∈ ep, FrameOK shape f) (r : Nat) (hr : r < mOf first shape) :
    ∀ x ∈ ep.map (fun f => row (kOf first shape) r f.data), x.length = kOf first shape := by
  intro x hx
  obtain ⟨f, hf, rfl⟩ := List.mem_map.mp hx
  exact frame_row_length first shape hpos f (hep f hf) r hr

theorem specData_length (first : Bool) (n : Nat) (shape : List Nat) (hpos : 0 < prod shape) (ep : List Arr)
    (hep : ∀ f ∈ ep, FrameOK shape f) :
    (specData first n shape ep).length = mOf first shape * (n * kOf first shape) := by
  unfold specData
  rw [length_flatMap_uniform (n * kOf first shape) _ _ fun r hr =>
    paddedRow_length n _ _ (rows_uniform first shape hpos ep hep r (List.mem_range.mp hr)), List.length_range]

theorem stackOf_length (first : Bool) (n : Nat) (shape : List Nat) (hpos : 0 < prod shape) (ep : List Arr)
    (hep : ∀ f ∈ ep, FrameOK shape f) : (stackOf first n shape ep).data.length = n * prod shape := by
  rw [stackOf_eq_specArr first n shape hpos]
  exact (specData_length first n shape hpos ep hep).trans (mOf_mul first n shape hpos)

theorem stackOf_shape (first : Bool) (n : Nat) (shape : List Nat) (ep : List Arr) :
    (stackOf first n shape ep).shape = stackedShape n first shape := by
  simp [stackOf, concatFrames, paddedFrames_length]

theorem rowLen_buf (first : Bool) (n : Nat) (shape : List Nat) (hne : shape ≠ []) (hpos : 0 < prod shape)
    (d : List Int) (hd : d.length = mOf first shape * (n * kOf first shape)) :
    rowLen first ⟨stackedShape n first shape, d⟩ = n * kOf first shape := by
  cases first with
  | true =>
    have : mOf true shape = 1 := by simp [mOf, kOf_first, Nat.div_self hpos]
    simp [rowLen, hd, this]
  | false =>
    simp only [rowLen, Bool.false_eq_true, if_false, lastDim_stackedShape n shape hne, kOf_last]
    exact Nat.mul_comm _ _

theorem updateArr_of_rows (first : Bool) (buf obs : Arr) (done : Bool) (term : Option Arr) (kb ko m : Nat)
    (hkb : rowLen first buf = kb) (hko : rowLen first obs = ko) (hm : buf.data.length / kb = m)
    (R : Nat → List Int × Option (List Int))
    (hR : ∀ r, r < m → updateRow (row kb r buf.data) (row ko r obs.data) done
      (term.map fun t => row (rowLen first t) r t.data) = R r) :
    updateArr first buf obs done term =
      (⟨buf.shape, (List.range m).flatMap fun r => (R r).1⟩,
       if done then term.map (fun _ => ⟨buf.shape, (List.range m).flatMap fun r => ((R r).2).getD []⟩) else term) := by
  subst hkb hko hm
  simp only [updateArr]
  rw [flatMap_range_congr _ _ _ fun r hr => congrArg Prod.fst (hR r hr),
    flatMap_range_congr _ _ _ fun r hr => congrArg (fun p => p.2.getD []) (hR r hr)]

theorem updateArr_done_eq_resetArr (first : Bool) (buf o : Arr) (t : Option Arr) :
    (updateArr first buf o true t).1 = resetArr first buf o := by
  simp only [updateArr, resetArr, updateRow_done_eq_resetRow]

theorem updateArr_spec (first : Bool) (n : Nat) (shape : List Nat) (hn : 0 < n) (hne : shape ≠ [])
    (hpos : 0 < prod shape) (ep : List Arr) (obs : Arr) (done : Bool) (term : Option Arr)
    (hep : ∀ f ∈ ep, FrameOK shape f) (ho : FrameOK shape obs) (ht : ∀ t, term = some t → FrameOK shape t) :
    updateArr first (stackOf first n shape ep) obs done term =
      if done then (stackOf first n shape [obs], term.map fun t => stackOf first n shape (ep ++ [t]))
      else (stackOf first n shape (ep ++ [obs]), term) := by
  have hk := (kOf_pos_prod_eq first shape hpos).1
  have hdata := specData_length first n shape hpos ep hep
  have hrows := rows_uniform first shape hpos ep hep
  have hm : (specArr first n shape ep).data.length / (n * kOf first shape) = mOf first shape := by
    show (specData first n shape ep).length / _ = _
    rw [hdata]; exact Nat.mul_div_cancel _ (Nat.mul_pos hn hk)
  simp only [stackOf_eq_specArr first n shape hpos]
  -- row `r` of the window is the padded row stack of the rows `r` of the episode: `updateRow_spec` applies
  rw [updateArr_of_rows first (specArr first n shape ep) obs done term _ _ _ (rowLen_buf first n shape hne hpos _ hdata)
    (rowLen_frame first shape obs ho) hm _ fun r hr =>
      (congrArg (updateRow · _ done _) (row_flatMap_uniform _ _ _
        (fun r hr => paddedRow_length n _ _ (hrows r hr)) r hr)).trans
      (updateRow_spec n _ hn _ _ done _ (hrows r hr) (frame_row_length first shape hpos obs ho r hr))]
  simp only [specArr, specData, List.map_append, List.map_cons, List.map_nil]
  cases done with
  | false => rfl
  | true =>
    cases term with
    | none => rfl
    | some t => simp only [if_true, Option.map_some, Option.getD_some, rowLen_frame first shape t (ht t rfl)]

theorem resetArr_spec (first : Bool) (n : Nat) (shape : List Nat) (hn : 0 < n) (hne : shape ≠ [])
    (hpos : 0 < prod shape) (ep : List Arr) (obs : Arr)
    (hep : ∀ f ∈ ep, FrameOK shape f) (ho : FrameOK shape obs) :
    resetArr first (stackOf first n shape ep) obs = stackOf first n shape [obs] := by
  rw [← updateArr_done_eq_resetArr first _ obs none,
    updateArr_spec first n shape hn hne hpos ep obs true none hep ho (fun _ h => nomatch h)]
  rfl

theorem zeros_eq_stackOf (first : Bool) (n : Nat) (shape : List Nat) (hne : shape ≠ []) (hpos : 0 < prod shape) :
    Arr.zeros (stackedShape n first shape) = stackOf first n shape [] := by
  rw [stackOf_eq_specArr first n shape hpos]
  unfold Arr.zeros specArr specData
  congr 1
  rw [prod_stackedShape first n shape hne]
  simp only [List.map_nil, paddedRow, paddedFrames_nil, List.flatten_replicate_replicate]
  rw [flatMap_const_replicate, mOf_mul first n shape hpos]

theorem fsRun_spec (first : Bool) (n : Nat) (shape : List Nat) (hn : 0 < n) (hne : shape ≠ [])
    (hpos : 0 < prod shape) (h : List FEv) :
    ∀ (ep : List Arr), (∀ f ∈ ep, FrameOK shape f) → (∀ e ∈ h, EvOK shape e) →
      fsRun first (stackOf first n shape ep) h = stackOf first n shape (curEpisode ep h) ∧
        ∀ f ∈ curEpisode ep h, FrameOK shape f := by
  induction h with
  | nil => intro ep hep _; exact ⟨rfl, hep⟩
  | cons e rest ih =>
    intro ep hep hh
    have hrest : ∀ e' ∈ rest, EvOK shape e' := fun e' he' => hh e' (List.mem_cons_of_mem _ he')
    have he : EvOK shape e := hh e List.mem_cons_self
    cases e with
    | reset o =>
      have ho : FrameOK shape o := he o List.mem_cons_self
      simp only [fsRun, curEpisode]
      rw [resetArr_spec first n shape hn hne hpos ep o hep ho]
      exact ih [o] (List.forall_mem_singleton.mpr ho) hrest
    | step o d t =>
      have ho : FrameOK shape o := he o (by cases t <;> exact List.mem_cons_self)
      have ht : ∀ t', t = some t' → FrameOK shape t' := fun t' h' => he t' (h' ▸ List.mem_cons_of_mem _ List.mem_cons_self)
      simp only [fsRun]
      rw [updateArr_spec first n shape hn hne hpos ep o d t hep ho ht]
      cases d with
      | false => exact ih (ep ++ [o]) (List.forall_mem_append.mpr ⟨hep, List.forall_mem_singleton.mpr ho⟩) hrest
      | true => exact ih [o] (List.forall_mem_singleton.mpr ho) hrest

theorem fsRun_zeros (first : Bool) (n : Nat) (shape : List Nat) (hn : 0 < n) (hne : shape ≠ [])
    (hpos : 0 < prod shape) (h : List FEv) (hh : ∀ e ∈ h, EvOK shape e) :
    fsRun first (Arr.zeros (stackedShape n first shape)) h = stackOf first n shape (curEpisode [] h) ∧
      ∀ f ∈ curEpisode [] h, FrameOK shape f := by
  rw [zeros_eq_stackOf first n shape hne hpos]
  exact fsRun_spec first n shape hn hne hpos h [] (fun _ hf => nomatch hf) hh

theorem updateArr_after_history (first : Bool) (n : Nat) (shape : List Nat) (hn : 0 < n) (hne : shape ≠ [])
    (hpos : 0 < prod shape) (h : List FEv) (hh : ∀ e ∈ h, EvOK shape e) (o : Arr) (ho : FrameOK shape o)
    (done : Bool) (term : Option Arr) (ht : ∀ t, term = some t → FrameOK shape t) :
    updateArr first (fsRun first (Arr.zeros (stackedShape n first shape)) h) o done term =
      if done then (stackOf first n shape [o], term.map fun t => stackOf first n shape (curEpisode [] h ++ [t]))
      else (stackOf first n shape (curEpisode [] h ++ [o]), term) := by
  obtain ⟨hrun, hep⟩ := fsRun_zeros first n shape hn hne hpos h hh
  rw [hrun]
  exact updateArr_spec first n shape hn hne hpos _ o done term hep ho ht

theorem mem_stackOf_data (first : Bool) (n : Nat) (shape : List Nat) (ep : List Arr) (x : Int)
    (hx : x ∈ (stackOf first n shape ep).data) : x = 0 ∨ ∃ f ∈ ep, x ∈ f.data := by
  simp only [stackOf, concatFrames, List.mem_flatMap] at hx
  obtain ⟨r, _, f, hf, hxr⟩ := hx
  have hxf := mem_row _ _ _ _ hxr
  rcases mem_paddedFrames _ _ _ _ hf with h | h
  · left
    rw [h] at hxf
    simp only [Arr.zeros, List.mem_replicate] at hxf
    exact hxf.2
  · exact Or.inr ⟨f, h, hxf⟩

/-- coordinate-wise `low ≤ data ≤ high` on lists of equal length -/
def WB : List Int → List Int → List Int → Prop
  | [], [], [] => True
  | l :: ls, h :: hs, d :: ds => l ≤ d ∧ d ≤ h ∧ WB ls hs ds
  | _, _, _ => False

theorem WB_length : ∀ (l h d : List Int), WB l h d → d.length = l.length ∧ d.length = h.length := by
  intro l h d hw
  fun_induction WB l h d with
  | case1 => exact ⟨rfl, rfl⟩
  | case2 l ls h hs d ds ih => exact ⟨congrArg (· + 1) (ih hw.2.2).1, congrArg (· + 1) (ih hw.2.2).2⟩
  | case3 => exact hw.elim

theorem withinBounds_iff_WB (l h d : List Int) : withinBounds l h d = true ↔ WB l h d := by
  fun_induction WB l h d with
  | case1 => simp [withinBounds]
  | case2 l ls h hs d ds ih =>
    simp only [withinBounds, List.length_cons, Bool.and_eq_true, beq_iff_eq, List.zip_cons_cons, List.all_cons,
      decide_eq_true_eq, Nat.add_right_cancel_iff] at ih ⊢
    rw [← ih]
    constructor
    · rintro ⟨⟨h1, h2⟩, ⟨h3, h4⟩, h5⟩
      exact ⟨h3, h4, ⟨h1, h2⟩, h5⟩
    · rintro ⟨h3, h4, ⟨h1, h2⟩, h5⟩
      exact ⟨⟨h1, h2⟩, ⟨h3, h4⟩, h5⟩
  | case3 l h d h1 h2 =>
    -- the lists are neither all empty nor all non-empty: the lengths differ
    refine ⟨fun hw => ?_, False.elim⟩
    simp only [withinBounds, Bool.and_eq_true, beq_iff_eq] at hw
    obtain ⟨⟨e1, e2⟩, _⟩ := hw
    cases d with
    | nil => exact h1 (List.eq_nil_of_length_eq_zero e1.symm) (List.eq_nil_of_length_eq_zero e2.symm) rfl
    | cons c ds =>
      cases l with
      | nil => exact absurd e1 (Nat.succ_ne_zero _)
      | cons a ls =>
        cases h with
        | nil => exact absurd e2 (Nat.succ_ne_zero _)
        | cons b hs => exact h2 _ _ _ _ _ _ rfl rfl rfl

theorem WB_append (l1 h1 d1 l2 h2 d2 : List Int) (hw : WB l1 h1 d1) (hw2 : WB l2 h2 d2) :
    WB (l1 ++ l2) (h1 ++ h2) (d1 ++ d2) := by
  fun_induction WB l1 h1 d1 with
  | case1 => exact hw2
  | case2 l ls h hs d ds ih => exact ⟨hw.1, hw.2.1, ih hw.2.2⟩
  | case3 => exact hw.elim

theorem WB_drop (k : Nat) (l h d : List Int) (hw : WB l h d) : WB (l.drop k) (h.drop k) (d.drop k) := by
  fun_induction WB l h d generalizing k with
  | case1 => rw [List.drop_nil]; trivial
  | case2 l ls h hs d ds ih =>
    cases k with
    | zero => exact hw
    | succ k => exact ih k hw.2.2
  | case3 => exact hw.elim

theorem WB_take (k : Nat) (l h d : List Int) (hw : WB l h d) : WB (l.take k) (h.take k) (d.take k) := by
  fun_induction WB l h d generalizing k with
  | case1 => rw [List.take_nil]; trivial
  | case2 l ls h hs d ds ih =>
    cases k with
    | zero => trivial
    | succ k => exact ⟨hw.1, hw.2.1, ih k hw.2.2⟩
  | case3 => exact hw.elim

theorem WB_row (k r : Nat) (l h d : List Int) (hw : WB l h d) : WB (row k r l) (row k r h) (row k r d) :=
  WB_take k _ _ _ (WB_drop (r * k) _ _ _ hw)

theorem WB_flatMap_range (m : Nat) (L H D : Nat → List Int) (hw : ∀ r, r < m → WB (L r) (H r) (D r)) :
    WB ((List.range m).flatMap L) ((List.range m).flatMap H) ((List.range m).flatMap D) := by
  induction m with
  | zero => simp [WB]
  | succ m ih =>
    simp only [List.range_succ, List.flatMap_append, List.flatMap_cons, List.flatMap_nil, List.append_nil]
    exact WB_append _ _ _ _ _ _ (ih fun r hr => hw r (by omega)) (hw m (by omega))

theorem WB_flatMap_frames (g : Arr → List Int) (lowA highA : Arr) (frames : List Arr)
    (hw : ∀ f ∈ frames, WB (g lowA) (g highA) (g f)) :
    WB ((List.replicate frames.length lowA).flatMap g) ((List.replicate frames.length highA).flatMap g)
      (frames.flatMap g) := by
  induction frames with
  | nil => trivial
  | cons f rest ih =>
    simp only [List.length_cons, List.replicate_succ, List.flatMap_cons]
    exact WB_append _ _ _ _ _ _ (hw f List.mem_cons_self) (ih fun f' hf' => hw f' (List.mem_cons_of_mem _ hf'))

theorem lookup_of_mem {β : Type} (l : List (String × β)) (hnd : (l.map (·.1)).Nodup) (e : String × β) (he : e ∈ l) :
    l.lookup e.1 = some e.2 := by
  induction l with
  | nil => cases he
  | cons hd rest ih =>
    obtain ⟨k, b⟩ := hd
    rw [List.map_cons, List.nodup_cons] at hnd
    rcases List.mem_cons.mp he with h | h
    · subst h; exact List.lookup_cons_self
    · have hne : (e.1 == k) = false := by
        rw [beq_eq_false_iff_ne]
        intro heq
        exact hnd.1 (heq ▸ List.mem_map_of_mem (f := (·.1)) h)
      rw [List.lookup_cons, hne]
      exact ih hnd.2 h

theorem mem_of_lookup {β : Type} (k : String) (l : List (String × β)) (b : β) (h : l.lookup k = some b) : (k, b) ∈ l := by
  obtain ⟨l₁, l₂, rfl, _⟩ := List.lookup_eq_some_iff.mp h
  exact List.mem_append_right _ List.mem_cons_self

theorem lookup_map_snd {β γ : Type} (f : String → β → γ) (k : String) (l : List (String × β)) :
    (l.map fun kv => (kv.1, f kv.1 kv.2)).lookup k = (l.lookup k).map (f k) := by
  induction l with
  | nil => rfl
  | cons hd rest ih =>
    obtain ⟨k1, b⟩ := hd
    rw [List.map_cons, List.lookup_cons, List.lookup_cons]
    cases hb : (k == k1) with
    | true => rw [eq_of_beq hb]; rfl
    | false => exact ih

theorem getKey_of_mem (t : Obs) (hnd : KeysNodup t) (kv : String × Arr) (hkv : kv ∈ t) : getKey kv.1 t = kv.2 := by
  rw [getKey, lookup_of_mem t hnd kv hkv]; rfl

theorem mem_getKey (k : String) (o : Obs) (h : k ∈ o.map (·.1)) : (k, getKey k o) ∈ o := by
  unfold getKey
  cases hl : o.lookup k with
  | none =>
    obtain ⟨kv, hkv, rfl⟩ := List.mem_map.mp h
    have := List.lookup_eq_none_iff.mp hl kv hkv
    simp at this
  | some a => exact mem_of_lookup k o a hl

theorem getKey_map (o : Obs) (hnd : KeysNodup o) (G : String × Arr → Arr) (kv : String × Arr) (hkv : kv ∈ o) :
    getKey kv.1 (o.map fun kv => (kv.1, G kv)) = G kv := by
  have hnd' : KeysNodup (o.map fun kv => (kv.1, G kv)) := by
    simpa [KeysNodup, List.map_map, Function.comp_def] using hnd
  exact getKey_of_mem _ hnd' (kv.1, G kv) (List.mem_map.mpr ⟨kv, hkv, rfl⟩)

theorem fsUpdate_keywise (firsts : List (String × Bool)) (bufs obs : Obs) (done : Bool) (term : Option Obs)
    (hnd : KeysNodup obs) (kv : String × Arr) (hkv : kv ∈ obs) :
    getKey kv.1 (fsUpdate firsts bufs obs done term).1 =
      (updateArr (firstOf firsts kv.1) (getKey kv.1 bufs) kv.2 done (term.map (getKey kv.1))).1 := by
  simp only [fsUpdate]
  exact getKey_map obs hnd _ kv hkv

theorem fsReset_keywise (firsts : List (String × Bool)) (bufs obs : Obs)
    (hnd : KeysNodup obs) (kv : String × Arr) (hkv : kv ∈ obs) :
    getKey kv.1 (fsReset firsts bufs obs) = resetArr (firstOf firsts kv.1) (getKey kv.1 bufs) kv.2 := by
  simp only [fsReset]
  exact getKey_map obs hnd _ kv hkv

theorem fsRunObs_keywise (firsts : List (String × Bool)) (k : String) (ops : List Op) :
    ∀ (bufs : Obs), (∀ op ∈ ops, KeysNodup op.obs ∧ k ∈ op.obs.map (·.1)) →
      getKey k (fsRunObs firsts bufs ops) = fsRun (firstOf firsts k) (getKey k bufs) (ops.map (Op.proj k)) := by
  induction ops with
  | nil => intro bufs _; rfl
  | cons op rest ih =>
    intro bufs h
    have hrest : ∀ op' ∈ rest, _ := fun op' h' => h op' (List.mem_cons_of_mem _ h')
    obtain ⟨hnd, hk⟩ := h op (by simp)
    cases op with
    | reset o =>
      simp only [Op.obs] at hnd hk
      simp only [fsRunObs, List.map_cons, Op.proj, fsRun]
      rw [ih _ hrest, fsReset_keywise firsts bufs o hnd (k, getKey k o) (mem_getKey k o hk)]
    | step r =>
      simp only [Op.obs] at hnd hk
      simp only [fsRunObs, List.map_cons, Op.proj, fsRun]
      rw [ih _ hrest, fsUpdate_keywise firsts bufs r.obs r.done r.info.terminal hnd (k, getKey k r.obs)
        (mem_getKey k r.obs hk)]

theorem WS_step_passthrough (w : WS) (r : Rec) :
    (w.step r).2.rew = r.rew ∧ (w.step r).2.done = r.done ∧
      (w.step r).2.info.truncated = r.info.truncated ∧ (w.step r).2.info.payload = r.info.payload := by
  cases w with
  | monitor ret len =>
    simp only [WS.step]
    split <;> simp
  | _ => simp [WS.step]

theorem stackStep_passthrough (ws : List WS) :
    ∀ r : Rec, (stackStep ws r).2.rew = r.rew ∧ (stackStep ws r).2.done = r.done ∧
      (stackStep ws r).2.info.truncated = r.info.truncated ∧ (stackStep ws r).2.info.payload = r.info.payload := by
  induction ws with
  | nil => intro r; simp [stackStep]
  | cons w ws ih =>
    intro r
    obtain ⟨h1, h2, h3, h4⟩ := WS_step_passthrough w r
    obtain ⟨g1, g2, g3, g4⟩ := ih (w.step r).2
    simp only [stackStep]
    exact ⟨g1.trans h1, g2.trans h2, g3.trans h3, g4.trans h4⟩

/-- no wrapper touches the `episode` entry on a step that does not end the episode -/
theorem WS_step_episode (w : WS) (r : Rec) (hd : r.done = false) :
    (w.step r).2.info.episode = r.info.episode := by
  cases w with
  | monitor ret len => simp only [WS.step, hd, Bool.false_eq_true, if_false]
  | _ => rfl

/-! What a wrapper returns has keys, shapes and sizes (its signature) determined by those of what it receives. -/

theorem rowLen_congr (first : Bool) (o t : Arr) (hs : o.shape = t.shape) (hl : o.data.length = t.data.length) :
    rowLen first o = rowLen first t := by
  cases first <;> simp [rowLen, hs, hl]

theorem updateArr_fst_shape (first : Bool) (buf o : Arr) (done : Bool) (t : Option Arr) :
    (updateArr first buf o done t).1.shape = buf.shape := rfl

theorem updateRow_fst_length (b o : List Int) (d : Bool) (t : Option (List Int)) :
    (updateRow b o d t).1.length = (if o.length = 0 then 0 else b.length - o.length) + o.length := by
  simp only [updateRow, assignTail, sliceTo, List.length_append, Nat.add_right_cancel_iff]
  cases d <;> split <;> simp [roll_length]

theorem updateArr_fst_length_congr (first : Bool) (buf buf' o t : Arr) (hbs : buf.shape = buf'.shape)
    (hbl : buf.data.length = buf'.data.length) (hs : o.shape = t.shape)
    (hl : o.data.length = t.data.length) (d d' : Bool) (x x' : Option Arr) :
    (updateArr first buf o d x).1.data.length = (updateArr first buf' t d' x').1.data.length := by
  have hk := rowLen_congr first o t hs hl
  have hkb := rowLen_congr first buf buf' hbs hbl
  unfold updateArr
  simp only [hk, hkb, hbl]
  apply length_flatMap_congr
  intro r _
  have h1 : (row (rowLen first t) r o.data).length = (row (rowLen first t) r t.data).length := by
    rw [row_length_eq, row_length_eq, hl]
  have h2 : (row (rowLen first buf') r buf.data).length = (row (rowLen first buf') r buf'.data).length := by
    rw [row_length_eq, row_length_eq, hbl]
  rw [updateRow_fst_length, updateRow_fst_length, h1, h2]

theorem map_eq_of_sig {β : Type} (F F' : String × Arr → β) (o t : Obs) (hs : obsSig o = obsSig t)
    (h : ∀ a ∈ o, ∀ b ∈ t, a.1 = b.1 → a.2.shape = b.2.shape → a.2.data.length = b.2.data.length → F a = F' b) :
    o.map F = t.map F' := by
  induction o generalizing t with
  | nil =>
    cases t with
    | nil => rfl
    | cons b t => cases hs
  | cons a o ih =>
    cases t with
    | nil => cases hs
    | cons b t =>
      injection hs with h1 h2
      injection h1 with hk h1
      injection h1 with hsh hl
      rw [List.map_cons, List.map_cons, h a List.mem_cons_self b List.mem_cons_self hk hsh hl,
        ih t h2 fun a' ha' b' hb' => h a' (List.mem_cons_of_mem _ ha') b' (List.mem_cons_of_mem _ hb')]

theorem obsSig_keys (o t : Obs) (h : obsSig o = obsSig t) : o.map (·.1) = t.map (·.1) := by
  have := congrArg (List.map (·.1)) h
  simpa [obsSig, List.map_map, Function.comp_def] using this

theorem fsUpdate_fst_sig (firsts : List (String × Bool)) (bufs o t : Obs) (hs : obsSig o = obsSig t)
    (d d' : Bool) (x x' : Option Obs) :
    obsSig (fsUpdate firsts bufs o d x).1 = obsSig (fsUpdate firsts bufs t d' x').1 := by
  simp only [fsUpdate, obsSig, List.map_map]
  refine map_eq_of_sig _ _ o t hs fun a _ b _ hk hsh hl => ?_
  simp only [Function.comp, hk, updateArr_fst_shape, Prod.mk.injEq, true_and]
  exact updateArr_fst_length_congr _ _ _ _ _ rfl rfl hsh hl _ _ _ _

theorem fsUpdate_fst_keys (firsts : List (String × Bool)) (bufs o : Obs) (d : Bool) (x : Option Obs) :
    (fsUpdate firsts bufs o d x).1.map (·.1) = o.map (·.1) := by
  simp [fsUpdate, List.map_map, Function.comp]

/-- shape and size of `transposeHWC a`, from those of `a` -/
def tsig : List Nat × Nat → List Nat × Nat
  | ([h, w, c], _) => ([c, h, w], c * (h * w))
  | e => e

theorem tsig_of_ne (s : List Nat) (n : Nat) (hne : ∀ h w c, s ≠ [h, w, c]) : tsig (s, n) = (s, n) := by
  unfold tsig
  split
  · rename_i h w c _ heq
    exact absurd (congrArg Prod.fst heq) (hne h w c)
  · rfl

theorem transposeHWC_shape (h w c : Nat) (d : List Int) : (transposeHWC ⟨[h, w, c], d⟩).shape = [c, h, w] := rfl

theorem transposeHWC_sig (a : Arr) :
    ((transposeHWC a).shape, (transposeHWC a).data.length) = tsig (a.shape, a.data.length) := by
  obtain ⟨shape, data⟩ := a
  unfold transposeHWC
  split
  · rename_i h w c heq
    simp only at heq
    subst heq
    exact congrArg (Prod.mk _) ((length_flatMap_uniform (h * w) _ (List.range c) fun r _ => by simp).trans
      (by rw [List.length_range]))
  · exact (tsig_of_ne _ _ ‹_›).symm

def transposedSig (keys : List String) (e : String × List Nat × Nat) : String × List Nat × Nat :=
  if keys.contains e.1 then (e.1, tsig e.2) else e

theorem transposeObs_eq (keys : List String) (o : Obs) :
    transposeObs keys o = o.map fun kv => (kv.1, if keys.contains kv.1 then transposeHWC kv.2 else kv.2) := by
  apply List.map_congr_left
  intro kv _
  split <;> rfl

theorem transposeObs_keys (keys : List String) (o : Obs) : (transposeObs keys o).map (·.1) = o.map (·.1) := by
  rw [transposeObs_eq, List.map_map]
  rfl

theorem transposeObs_sig (keys : List String) (o : Obs) :
    obsSig (transposeObs keys o) = (obsSig o).map (transposedSig keys) := by
  simp only [transposeObs, obsSig, List.map_map]
  apply List.map_congr_left
  intro kv _
  simp only [Function.comp, transposedSig]
  split
  · exact congrArg (Prod.mk kv.1) (transposeHWC_sig kv.2)
  · rfl

/-- an absent key gives the empty array, hence `([], 0)` -/
theorem getKey_sig (k : String) (o : Obs) :
    ((getKey k o).shape, (getKey k o).data.length) = ((obsSig o).lookup k).getD ([], 0) := by
  have h : (obsSig o).lookup k = (o.lookup k).map fun a => (a.shape, a.data.length) :=
    lookup_map_snd (fun _ (a : Arr) => (a.shape, a.data.length)) k o
  rw [h, getKey]
  cases o.lookup k <;> rfl

theorem extractObs_sig (key : String) (o : Obs) :
    obsSig (extractObs key o) = [("", ((obsSig o).lookup key).getD ([], 0))] := by
  rw [← getKey_sig]; rfl

theorem updateRow_terminal_alike (b orow trow : List Int) (h : orow.length = trow.length) :
    (updateRow b orow true (some trow)).2 = some (updateRow b trow false none).1 := by
  simp [updateRow, assignTail, h]

theorem updateArr_terminal_alike (first : Bool) (buf o t : Arr) (hs : o.shape = t.shape)
    (hl : o.data.length = t.data.length) :
    (updateArr first buf o true (some t)).2 = some (updateArr first buf t false none).1 := by
  have hk := rowLen_congr first o t hs hl
  unfold updateArr
  simp only [if_true, Option.map_some, hk]
  refine congrArg (fun d => some (Arr.mk buf.shape d)) (flatMap_range_congr _ _ _ fun r _ => ?_)
  rw [updateRow_terminal_alike _ _ _ (by rw [row_length_eq, row_length_eq, hl])]
  rfl

theorem fsUpdate_terminal_alike (firsts : List (String × Bool)) (bufs o t : Obs)
    (hs : obsSig o = obsSig t) (hnd : KeysNodup t) :
    (fsUpdate firsts bufs o true (some t)).2 = some (fsUpdate firsts bufs t false none).1 := by
  simp only [fsUpdate, if_true, Option.map_some]
  refine congrArg some (map_eq_of_sig _ _ o t hs fun a _ b hb hk hsh hl => ?_)
  rw [hk, getKey_of_mem t hnd b hb, updateArr_terminal_alike _ _ _ _ hsh hl]
  rfl

theorem WS_step_obs_ordinary (w : WS) (r : Rec) (hd : r.done = false) : (w.step r).2.obs = w.obsFn r.obs := by
  cases w with
  | frameStack firsts bufs =>
    simp only [WS.step, WS.obsFn, hd]
    rfl
  | monitor ret len => simp only [WS.step, WS.obsFn, hd, Bool.false_eq_true, if_false]
  | _ => rfl

theorem WS_step_terminal_alike (w : WS) (r : Rec) (t : Obs) (hd : r.done = true)
    (ht : r.info.terminal = some t) (hs : obsSig r.obs = obsSig t) (hnd : KeysNodup t) :
    (w.step r).2.info.terminal = some (w.obsFn t) ∧ obsSig (w.step r).2.obs = obsSig (w.obsFn t) ∧
      KeysNodup (w.obsFn t) := by
  cases w with
  | frameStack firsts bufs =>
    simp only [WS.step, WS.obsFn, hd, ht]
    refine ⟨fsUpdate_terminal_alike firsts bufs r.obs t hs hnd, fsUpdate_fst_sig firsts bufs r.obs t hs _ _ _ _, ?_⟩
    simp only [KeysNodup, fsUpdate_fst_keys]; exact hnd
  | transpose keys =>
    simp only [WS.step, WS.obsFn, hd, ht, if_true, Option.map_some]
    refine ⟨trivial, by rw [transposeObs_sig, transposeObs_sig, hs], ?_⟩
    simp only [KeysNodup, transposeObs_keys]; exact hnd
  | extract key =>
    simp only [WS.step, WS.obsFn, ht, Option.map_some]
    exact ⟨trivial, by rw [extractObs_sig, extractObs_sig, hs], by simp [KeysNodup, extractObs]⟩
  | monitor ret len =>
    -- at an episode end `Monitor` changes only `info.episode`
    simp only [WS.step, hd, if_true]
    exact ⟨ht, hs, hnd⟩
  | checkNan => exact ⟨ht, hs, hnd⟩

theorem WS_step_terminal_none (w : WS) (r : Rec) (ht : r.info.terminal = none) :
    (w.step r).2.info.terminal = none := by
  cases w with
  | frameStack firsts bufs => simp only [WS.step, fsUpdate, ht, Option.map_none, ite_self]
  | transpose keys => simp only [WS.step, ht, Option.map_none, ite_self]
  | extract key => simp only [WS.step, ht, Option.map_none]
  | monitor ret len => simp only [WS.step]; split <;> exact ht
  | checkNan => exact ht

theorem stackStep_obs_ordinary (ws : List WS) :
    ∀ r : Rec, r.done = false → (stackStep ws r).2.obs = stackObsFn ws r.obs := by
  induction ws with
  | nil => intro r _; rfl
  | cons w ws ih =>
    intro r hd
    have hd' : (w.step r).2.done = false := (WS_step_passthrough w r).2.1.trans hd
    simp only [stackStep, stackObsFn]
    rw [ih _ hd', WS_step_obs_ordinary w r hd]

theorem stackStep_terminal_alike (ws : List WS) :
    ∀ (r : Rec) (t : Obs), r.done = true → r.info.terminal = some t → obsSig r.obs = obsSig t → KeysNodup t →
      (stackStep ws r).2.info.terminal = some (stackObsFn ws t) := by
  induction ws with
  | nil => intro r t _ ht _ _; simpa [stackStep, stackObsFn] using ht
  | cons w ws ih =>
    intro r t hd ht hs hnd
    have hd' : (w.step r).2.done = true := (WS_step_passthrough w r).2.1.trans hd
    obtain ⟨h1, h2, h3⟩ := WS_step_terminal_alike w r t hd ht hs hnd
    simp only [stackStep, stackObsFn]
    exact ih _ _ hd' h1 h2 h3

theorem stackStep_terminal_none (ws : List WS) :
    ∀ r : Rec, r.info.terminal = none → (stackStep ws r).2.info.terminal = none := by
  induction ws with
  | nil => intro r h; simpa [stackStep] using h
  | cons w ws ih =>
    intro r h
    simp only [stackStep]
    exact ih _ (WS_step_terminal_none w r h)

theorem fsUpdate_done_eq_fsReset (firsts : List (String × Bool)) (bufs o : Obs) (t : Option Obs) :
    (fsUpdate firsts bufs o true t).1 = fsReset firsts bufs o := by
  simp only [fsUpdate, fsReset]
  apply List.map_congr_left
  intro kv _
  rw [updateArr_done_eq_resetArr]

theorem WS_reset_eq_step (w : WS) (r : Rec) (hd : r.done = true) :
    w.reset r.obs = ((w.step r).1, (w.step r).2.obs) := by
  cases w with
  | frameStack firsts bufs => simp only [WS.step, WS.reset, hd, fsUpdate_done_eq_fsReset]
  | monitor ret len => simp [WS.step, WS.reset, hd]
  | _ => rfl

theorem stackReset_eq_step (ws : List WS) : ∀ r : Rec, r.done = true →
    stackReset ws r.obs = ((stackStep ws r).1, (stackStep ws r).2.obs) := by
  induction ws with
  | nil => intro r _; rfl
  | cons w ws ih =>
    intro r hd
    have hd' : (w.step r).2.done = true := (WS_step_passthrough w r).2.1.trans hd
    simp only [stackStep, stackReset, WS_reset_eq_step w r hd, ih _ hd']

/-- A window of the right shape and size keeps its size under `update`, whatever it holds: the size depends on shapes and
sizes only, and for the window of the empty episode it is known. -/
theorem updateArr_fst_size (first : Bool) (n : Nat) (shape : List Nat) (hn : 0 < n) (hne : shape ≠ [])
    (hpos : 0 < prod shape) (buf o : Arr) (hbs : buf.shape = stackedShape n first shape)
    (hbl : buf.data.length = n * prod shape) (ho : FrameOK shape o) (d : Bool) (x : Option Arr) :
    (updateArr first buf o d x).1.data.length = n * prod shape := by
  rw [updateArr_fst_length_congr first buf (stackOf first n shape []) o o (hbs.trans (stackOf_shape first n shape []).symm)
    (by rw [hbl, stackOf_length first n shape hpos [] (by simp)]) rfl rfl d false x none,
    updateArr_spec first n shape hn hne hpos [] o false none (by simp) ho (by simp)]
  simp only [Bool.false_eq_true, if_false]
  exact stackOf_length first n shape hpos _ (by simpa using ho)

abbrev Sig := List (String × List Nat × Nat)

/-- keys distinct, rank ≥ 1, no empty dimension, the recorded size is the shape's -/
def SigOK (sg : Sig) : Prop :=
  (sg.map (·.1)).Nodup ∧ ∀ e ∈ sg, e.2.1 ≠ [] ∧ 0 < prod e.2.1 ∧ e.2.2 = prod e.2.1

/-- signature of the window of a sub-stack of depth `n` over frames of signature `e` -/
def stackedSig (n : Nat) (firsts : List (String × Bool)) (e : String × List Nat × Nat) : String × List Nat × Nat :=
  (e.1, stackedShape n (firstOf firsts e.1) e.2.1, n * e.2.2)

theorem keysNodup_of_sig (o : Obs) (sg : Sig) (h : obsSig o = sg) (hnd : (sg.map (·.1)).Nodup) : KeysNodup o := by
  subst h
  simpa [KeysNodup, obsSig, List.map_map, Function.comp_def] using hnd

theorem stackedSig_keys (n : Nat) (firsts : List (String × Bool)) (sg : Sig) :
    (sg.map (stackedSig n firsts)).map (·.1) = sg.map (·.1) := by
  rw [List.map_map]; rfl

theorem fs_sig (firsts : List (String × Bool)) (n : Nat) (hn : 0 < n) (sg : Sig) (hsg : SigOK sg) (bufs o : Obs)
    (hb : obsSig bufs = sg.map (stackedSig n firsts)) (ho : obsSig o = sg) (d : Bool) (x : Option Obs) :
    obsSig (fsUpdate firsts bufs o d x).1 = sg.map (stackedSig n firsts) := by
  subst ho
  simp only [fsUpdate, obsSig, List.map_map]
  apply List.map_congr_left
  intro kv hkv
  have he : (kv.1, kv.2.shape, kv.2.data.length) ∈ obsSig o := List.mem_map_of_mem hkv
  obtain ⟨hne, hpos, hsz⟩ := hsg.2 _ he
  -- the window of `kv`'s key has the stacked signature of `kv`
  have hl : (obsSig bufs).lookup kv.1 = some (stackedShape n (firstOf firsts kv.1) kv.2.shape, n * kv.2.data.length) := by
    rw [hb]
    exact lookup_of_mem _ (by rw [stackedSig_keys]; exact hsg.1) _ (List.mem_map_of_mem (f := stackedSig n firsts) he)
  have hg := getKey_sig kv.1 bufs
  rw [hl] at hg
  obtain ⟨hbs, hbl⟩ := Prod.mk.inj hg
  have g := updateArr_fst_size (firstOf firsts kv.1) n kv.2.shape hn hne hpos (getKey kv.1 bufs) kv.2
    hbs (by rw [hbl]; exact congrArg (n * ·) hsz) ⟨rfl, hsz⟩ d (x.map (getKey kv.1))
  exact Prod.ext rfl (Prod.ext hbs (g.trans (congrArg (n * ·) hsz.symm)))

theorem mem_roll (c : Nat) (l : List Int) (x : Int) (h : x ∈ roll c l) : x ∈ l := by
  simp only [roll, List.mem_append] at h
  rcases h with h | h
  · exact List.mem_of_mem_drop h
  · exact List.mem_of_mem_take h

theorem mem_sliceTo (c : Nat) (l : List Int) (x : Int) (h : x ∈ sliceTo c l) : x ∈ l := by
  unfold sliceTo at h
  split at h
  · simp at h
  · exact List.mem_of_mem_take h

theorem mem_updateRow_fst (b o : List Int) (d : Bool) (t : Option (List Int)) (x : Int)
    (h : x ∈ (updateRow b o d t).1) : x ∈ b ∨ x = 0 ∨ x ∈ o := by
  simp only [updateRow, assignTail, List.mem_append] at h
  rcases h with h | h
  · have := mem_sliceTo _ _ _ h
    cases d with
    | false => exact Or.inl (mem_roll _ _ _ (by simpa using this))
    | true =>
      simp only [if_true, List.mem_replicate] at this
      exact Or.inr (Or.inl this.2)
  · exact Or.inr (Or.inr h)

theorem mem_updateArr_fst (first : Bool) (buf o : Arr) (d : Bool) (t : Option Arr) (x : Int)
    (h : x ∈ (updateArr first buf o d t).1.data) : x ∈ buf.data ∨ x = 0 ∨ x ∈ o.data := by
  simp only [updateArr, List.mem_flatMap] at h
  obtain ⟨r, _, hx⟩ := h
  rcases mem_updateRow_fst _ _ _ _ _ hx with h1 | h1 | h1
  · exact Or.inl (mem_row _ _ _ _ h1)
  · exact Or.inr (Or.inl h1)
  · exact Or.inr (Or.inr (mem_row _ _ _ _ h1))

theorem mem_transposeHWC (a : Arr) (x : Int) (h : x ∈ (transposeHWC a).data) : x = 0 ∨ x ∈ a.data := by
  unfold transposeHWC at h
  split at h
  · simp only [List.mem_flatMap, List.mem_map] at h
    obtain ⟨ch, _, p, _, rfl⟩ := h
    simp only [List.getD_eq_getElem?_getD]
    cases hget : a.data[p * _ + ch]? with
    | none => left; simp
    | some v => right; simp only [Option.getD_some]; exact List.mem_of_getElem? hget
  · exact Or.inr h

/-! No wrapper computes with the entries: what it returns under a key is made of entries it received under the
corresponding key and of zeros. So any property `Q key` of entries that holds of `0` is kept. -/

def ObsQ (Q : String → Int → Prop) (o : Obs) : Prop := ∀ kv ∈ o, ∀ x ∈ kv.2.data, Q kv.1 x

theorem getKey_obsQ (Q : String → Int → Prop) (o : Obs) (ho : ObsQ Q o) (k : String) :
    ∀ x ∈ (getKey k o).data, Q k x := by
  unfold getKey
  cases hl : o.lookup k with
  | none => intro x hx; cases hx
  | some a => exact ho (k, a) (mem_of_lookup k o a hl)

theorem fsUpdate_obsQ (Q : String → Int → Prop) (hz : ∀ k, Q k 0) (firsts : List (String × Bool)) (bufs o : Obs)
    (hb : ObsQ Q bufs) (ho : ObsQ Q o) (d : Bool) (x : Option Obs) : ObsQ Q (fsUpdate firsts bufs o d x).1 := by
  intro kv' hkv' y hy
  obtain ⟨kv, hkv, rfl⟩ := List.mem_map.mp hkv'
  rcases mem_updateArr_fst _ _ _ _ _ _ hy with h | h | h
  · exact getKey_obsQ Q bufs hb kv.1 y h
  · exact h ▸ hz kv.1
  · exact ho kv hkv y h

theorem transposeObs_obsQ (Q : String → Int → Prop) (hz : ∀ k, Q k 0) (keys : List String) (o : Obs)
    (ho : ObsQ Q o) : ObsQ Q (transposeObs keys o) := by
  intro kv' hkv' y hy
  rw [transposeObs_eq] at hkv'
  obtain ⟨kv, hkv, rfl⟩ := List.mem_map.mp hkv'
  split at hy
  · rcases mem_transposeHWC _ _ hy with h | h
    · exact h ▸ hz kv.1
    · exact ho kv hkv y h
  · exact ho kv hkv y hy

/-- `w` is a state of a wrapper that turns observations of signature `sg` whose entries satisfy `Q` (key by key)
into observations of signature `sg'` whose entries satisfy `Q'` -/
def WSInv (sg : Sig) (Q : String → Int → Prop) (w : WS) (sg' : Sig) (Q' : String → Int → Prop) : Prop :=
  match w with
  | .frameStack firsts bufs =>
    ∃ n, 0 < n ∧ sg' = sg.map (stackedSig n firsts) ∧ Q' = Q ∧ obsSig bufs = sg' ∧ ObsQ Q bufs
  | .transpose keys => sg' = sg.map (transposedSig keys) ∧ Q' = Q
  | .extract key => ∃ e, sg.lookup key = some e ∧ sg' = [("", e)] ∧ Q' = fun _ => Q key
  | .monitor _ _ => sg' = sg ∧ Q' = Q
  | .checkNan => sg' = sg ∧ Q' = Q

theorem WS_step_inv (sg sg' : Sig) (Q Q' : String → Int → Prop) (w : WS) (hw : WSInv sg Q w sg' Q') (hsg : SigOK sg)
    (hz : ∀ k, Q k 0) (r : Rec) (ho : obsSig r.obs = sg) (hq : ObsQ Q r.obs) :
    WSInv sg Q (w.step r).1 sg' Q' ∧ obsSig (w.step r).2.obs = sg' ∧ ObsQ Q' (w.step r).2.obs := by
  cases w with
  | frameStack firsts bufs =>
    obtain ⟨n, hn, rfl, rfl, hb, hbq⟩ := hw
    have hs := fs_sig firsts n hn sg hsg bufs r.obs hb ho r.done r.info.terminal
    have hq' := fsUpdate_obsQ _ hz firsts bufs r.obs hbq hq r.done r.info.terminal
    exact ⟨⟨n, hn, rfl, rfl, hs, hq'⟩, hs, hq'⟩
  | transpose keys =>
    obtain ⟨rfl, rfl⟩ := hw
    exact ⟨⟨rfl, rfl⟩, ho ▸ transposeObs_sig keys r.obs, transposeObs_obsQ _ hz keys r.obs hq⟩
  | extract key =>
    obtain ⟨e, he, rfl, rfl⟩ := hw
    refine ⟨⟨e, he, rfl, rfl⟩, ?_, fun kv hkv => ?_⟩
    · rw [← ho] at he
      exact (extractObs_sig key r.obs).trans (by rw [he]; rfl)
    · cases List.mem_singleton.mp hkv
      exact getKey_obsQ Q r.obs hq key
  | monitor ret len =>
    obtain ⟨rfl, rfl⟩ := hw
    simp only [WS.step]
    split <;> exact ⟨⟨rfl, rfl⟩, ho, hq⟩
  | checkNan =>
    obtain ⟨rfl, rfl⟩ := hw
    exact ⟨⟨rfl, rfl⟩, ho, hq⟩

theorem sigOK_stacked (n : Nat) (hn : 0 < n) (firsts : List (String × Bool)) (sg : Sig) (hsg : SigOK sg) :
    SigOK (sg.map (stackedSig n firsts)) := by
  refine ⟨by rw [stackedSig_keys]; exact hsg.1, ?_⟩
  intro e' he'
  obtain ⟨e, he, rfl⟩ := List.mem_map.mp he'
  obtain ⟨h1, h2, h3⟩ := hsg.2 e he
  have hp := prod_stackedShape (firstOf firsts e.1) n e.2.1 h1
  show _ ∧ 0 < prod (stackedShape n (firstOf firsts e.1) e.2.1) ∧
    n * e.2.2 = prod (stackedShape n (firstOf firsts e.1) e.2.1)
  rw [hp, h3]
  exact ⟨stackedShape_ne_nil _ _ _ h1, Nat.mul_pos hn h2, rfl⟩

theorem sigOK_transposed (keys : List String) (sg : Sig) (hsg : SigOK sg) : SigOK (sg.map (transposedSig keys)) := by
  constructor
  · have : (sg.map (transposedSig keys)).map (·.1) = sg.map (·.1) := by
      rw [List.map_map]
      apply List.map_congr_left
      intro e _
      simp only [Function.comp, transposedSig]
      split <;> rfl
    rw [this]; exact hsg.1
  · intro e' he'
    obtain ⟨e, he, rfl⟩ := List.mem_map.mp he'
    obtain ⟨g1, g2, g3⟩ := hsg.2 e he
    unfold transposedSig
    split
    · show (tsig e.2).1 ≠ [] ∧ 0 < prod (tsig e.2).1 ∧ (tsig e.2).2 = prod (tsig e.2).1
      unfold tsig
      split
      · rename_i h w c l heq
        rw [heq] at g2
        simp only [prod, Nat.mul_one] at g2 ⊢
        exact ⟨List.cons_ne_nil _ _, by rw [Nat.mul_comm c, Nat.mul_assoc]; exact g2, trivial⟩
      · exact ⟨g1, g2, g3⟩
    · exact ⟨g1, g2, g3⟩

theorem spaceSig_keys (sp : Space) : (spaceSig sp).map (·.1) = sp.subs.map (·.1) := by
  simp [spaceSig, List.map_map, Function.comp_def]

theorem sigOK_of_spaceOK (sp : Space) (h : SpaceOK sp) : SigOK (spaceSig sp) := by
  constructor
  · rw [spaceSig_keys]; exact h.1
  · intro e he
    simp only [spaceSig, List.mem_map] at he
    obtain ⟨kb, hkb, rfl⟩ := he
    exact ⟨(h.2 kb hkb).1, (h.2 kb hkb).2, rfl⟩

theorem transposeBox_sig (b : Box) :
    ((transposeBox b).shape, prod (transposeBox b).shape) = tsig (b.shape, prod b.shape) := by
  unfold transposeBox
  split
  · rename_i h w c heq
    rw [heq]
    simp only [tsig, prod, Nat.mul_one]
  · exact (tsig_of_ne _ _ ‹_›).symm

theorem stackedSig_space (n : Nat) (firsts : List (String × Bool)) (sp : Space)
    (hne : ∀ kb ∈ sp.subs, kb.2.shape ≠ []) :
    (spaceSig sp).map (stackedSig n firsts) = sp.subs.map fun kb =>
      (kb.1, stackedShape n (firstOf firsts kb.1) kb.2.shape, prod (stackedShape n (firstOf firsts kb.1) kb.2.shape)) := by
  simp only [spaceSig, List.map_map]
  apply List.map_congr_left
  intro kb hkb
  simp only [Function.comp, stackedSig, prod_stackedShape _ n kb.2.shape (hne kb hkb)]

theorem tileAxis_replicate (n : Nat) (first : Bool) (shape : List Nat) (hpos : 0 < prod shape) (v : Int) :
    tileAxis n first shape (List.replicate (prod shape) v) = List.replicate (n * prod shape) v := by
  rw [tileAxis, concatFrames_eq]
  have : ∀ r, r < mOf first shape →
      ((List.replicate n (⟨shape, List.replicate (prod shape) v⟩ : Arr)).flatMap fun f =>
        row (kOf first shape) r f.data) = List.replicate (n * kOf first shape) v := by
    intro r hr
    rw [List.flatMap_def, List.map_replicate, row_replicate _ _ _ _ (row_le_prod first shape hpos r hr)]
    simp
  rw [flatMap_range_congr _ _ _ this, flatMap_const_replicate, mOf_mul first n shape hpos]

/-- every box of the space has scalar bounds, and `Q key` says "inside the bounds of box `key`" -/
def SpaceB (sp : Space) (Q : String → Int → Prop) : Prop :=
  ∀ kb ∈ sp.subs, ∃ lo hi : Int, kb.2.low = List.replicate (prod kb.2.shape) lo ∧
    kb.2.high = List.replicate (prod kb.2.shape) hi ∧ ∀ x, Q kb.1 x ↔ lo ≤ x ∧ x ≤ hi

theorem replicate_all_eq (P : Nat) (hP : 0 < P) (v w : Int) (h : (List.replicate P v).all (· == w) = true) : v = w := by
  cases P with
  | zero => omega
  | succ P => simp [List.replicate_succ] at h; exact h.1

/-- an image box has bounds 0 / 255, and so has its transposition -/
theorem transposeBox_scalar (b : Box) (himg : b.isImage = true) (hpos : 0 < prod b.shape) (lo hi : Int)
    (hlow : b.low = List.replicate (prod b.shape) lo) (hhigh : b.high = List.replicate (prod b.shape) hi) :
    (transposeBox b).low = List.replicate (prod (transposeBox b).shape) lo ∧
      (transposeBox b).high = List.replicate (prod (transposeBox b).shape) hi := by
  unfold transposeBox
  split
  · rename_i h w c heq
    simp only [Box.isImage, Bool.and_eq_true] at himg
    rw [hlow, hhigh] at himg
    cases replicate_all_eq _ hpos _ _ himg.1.2
    cases replicate_all_eq _ hpos _ _ himg.2
    have hp : prod [c, h, w] = c * h * w := by simp only [prod, Nat.mul_one, Nat.mul_assoc]
    exact ⟨by rw [hp], by rw [hp]⟩
  · exact ⟨hlow, hhigh⟩

theorem ok_of_ite {ε α : Type} {c : Prop} [Decidable c] {e : ε} {x : Except ε α} {y : α}
    (h : (if c then .error e else x) = .ok y) : ¬c ∧ x = .ok y := by
  by_cases hc : c
  · rw [if_pos hc] at h; cases h
  · rw [if_neg hc] at h; exact ⟨hc, h⟩

/-- what a successful `VecFrameStack` constructor returns (the stacking axes it computed do not matter below) -/
theorem build_frameStack {n : Nat} {spec : OrderSpec} {sp sp' : Space} {w : WS}
    (hb : (WCfg.frameStack n spec).build sp = .ok (w, sp')) :
    ∃ firsts, 0 < n ∧
      w = .frameStack firsts (sp.subs.map fun kb => (kb.1, Arr.zeros (stackedShape n (firstOf firsts kb.1) kb.2.shape))) ∧
      sp' = { sp with subs := sp.subs.map fun kb => (kb.1, stackedBox n (firstOf firsts kb.1) kb.2) } := by
  simp only [WCfg.build] at hb
  obtain ⟨hn, hb⟩ := ok_of_ite hb
  obtain ⟨_, hb⟩ := ok_of_ite hb
  obtain ⟨_, hb⟩ := ok_of_ite hb
  obtain ⟨_, hb⟩ := ok_of_ite hb
  injection hb with hb
  injection hb with hw hs
  exact ⟨_, Nat.pos_of_ne_zero hn, hw.symm, hs.symm⟩

/-- what a successful `VecTransposeImage` constructor returns: it transposes image keys only (`skip`: no key) -/
theorem build_transpose {skip : Bool} {sp sp' : Space} {w : WS} (hnd : (sp.subs.map (·.1)).Nodup)
    (hb : (WCfg.transpose skip).build sp = .ok (w, sp')) :
    ∃ keys, (∀ kb ∈ sp.subs, keys.contains kb.1 = true → kb.2.isImage = true) ∧ w = .transpose keys ∧
      sp' = { sp with subs := sp.subs.map fun kb => if keys.contains kb.1 then (kb.1, transposeBox kb.2) else kb } := by
  simp only [WCfg.build] at hb
  obtain ⟨_, hb⟩ := ok_of_ite hb
  cases skip with
  | true =>
    rw [if_pos rfl] at hb
    injection hb with hb
    injection hb with hw hs
    exact ⟨[], fun _ _ h => by simp at h, hw.symm, by rw [← hs]; simp⟩
  | false =>
    rw [if_neg Bool.false_ne_true] at hb
    obtain ⟨_, hb⟩ := ok_of_ite hb
    injection hb with hb
    injection hb with hw hs
    refine ⟨_, ?_, hw.symm, hs.symm⟩
    intro kb hkb hc
    simp only [List.contains_iff_mem, List.mem_map, List.mem_filter] at hc
    obtain ⟨kb', ⟨hkb', himg⟩, hk⟩ := hc
    have h1 := lookup_of_mem sp.subs hnd kb' hkb'
    rw [hk, lookup_of_mem sp.subs hnd kb hkb] at h1
    exact Option.some.inj h1 ▸ himg

theorem build_extract {key : String} {sp sp' : Space} {w : WS} (hb : (WCfg.extract key).build sp = .ok (w, sp')) :
    ∃ b, sp.subs.lookup key = some b ∧ w = .extract key ∧ sp' = { isDict := false, subs := [("", b)] } := by
  simp only [WCfg.build] at hb
  obtain ⟨_, hb⟩ := ok_of_ite hb
  cases hl : sp.subs.lookup key with
  | none => rw [hl] at hb; cases hb
  | some b =>
    rw [hl] at hb
    injection hb with hb
    injection hb with hw hs
    exact ⟨b, rfl, hw.symm, hs.symm⟩

theorem build_inv (cfg : WCfg) (sp sp' : Space) (w : WS) (hb : cfg.build sp = .ok (w, sp'))
    (hsg : SigOK (spaceSig sp)) (Q : String → Int → Prop) (hz : ∀ k, Q k 0) :
    ∃ Q', WSInv (spaceSig sp) Q w (spaceSig sp') Q' ∧ SigOK (spaceSig sp') ∧ (∀ k, Q' k 0) ∧
      (SpaceB sp Q → SpaceB sp' Q') := by
  have hmem : ∀ kb ∈ sp.subs, kb.2.shape ≠ [] ∧ 0 < prod kb.2.shape := fun kb hkb =>
    have h := hsg.2 _ (List.mem_map_of_mem (f := fun kb : String × Box => (kb.1, kb.2.shape, prod kb.2.shape)) hkb)
    ⟨h.1, h.2.1⟩
  cases cfg with
  | frameStack n spec =>
    obtain ⟨firsts, hn, rfl, rfl⟩ := build_frameStack hb
    have h1 := stackedSig_space n firsts sp fun kb hkb => (hmem kb hkb).1
    have h2 : spaceSig { sp with subs := sp.subs.map fun kb => (kb.1, stackedBox n (firstOf firsts kb.1) kb.2) } =
        (spaceSig sp).map (stackedSig n firsts) := by
      rw [h1]; simp only [spaceSig, List.map_map]; rfl
    refine ⟨Q, ⟨n, hn, h2, rfl, ?_, fun kv hkv x hx => ?_⟩, h2 ▸ sigOK_stacked n hn firsts _ hsg, hz,
      fun hB kb' hkb' => ?_⟩
    · rw [h2, h1]
      simp only [obsSig, List.map_map, Function.comp_def, Arr.zeros, List.length_replicate]
    · obtain ⟨kb, _, rfl⟩ := List.mem_map.mp hkv
      exact (List.mem_replicate.mp hx).2 ▸ hz _
    · obtain ⟨kb, hkb, rfl⟩ := List.mem_map.mp hkb'
      obtain ⟨lo, hi, hlow, hhigh, hQ⟩ := hB kb hkb
      obtain ⟨hne, hpos⟩ := hmem kb hkb
      refine ⟨lo, hi, ?_, ?_, hQ⟩
      · show tileAxis n _ kb.2.shape kb.2.low = List.replicate (prod (stackedShape n _ kb.2.shape)) lo
        rw [hlow, tileAxis_replicate n _ _ hpos, prod_stackedShape _ n _ hne]
      · show tileAxis n _ kb.2.shape kb.2.high = List.replicate (prod (stackedShape n _ kb.2.shape)) hi
        rw [hhigh, tileAxis_replicate n _ _ hpos, prod_stackedShape _ n _ hne]
  | transpose skip =>
    obtain ⟨keys, himg, rfl, rfl⟩ := build_transpose (spaceSig_keys sp ▸ hsg.1) hb
    have h1 : spaceSig { sp with
          subs := sp.subs.map fun kb => if keys.contains kb.1 then (kb.1, transposeBox kb.2) else kb } =
        (spaceSig sp).map (transposedSig keys) := by
      simp only [spaceSig, List.map_map]
      apply List.map_congr_left
      intro kb _
      simp only [Function.comp, transposedSig]
      split
      · exact congrArg (Prod.mk kb.1) (transposeBox_sig kb.2)
      · rfl
    refine ⟨Q, ⟨h1, rfl⟩, h1 ▸ sigOK_transposed keys _ hsg, hz, fun hB kb' hkb' => ?_⟩
    obtain ⟨kb, hkb, rfl⟩ := List.mem_map.mp hkb'
    obtain ⟨lo, hi, hlow, hhigh, hQ⟩ := hB kb hkb
    split
    · rename_i hc
      obtain ⟨g1, g2⟩ := transposeBox_scalar kb.2 (himg kb hkb hc) (hmem kb hkb).2 lo hi hlow hhigh
      exact ⟨lo, hi, g1, g2, hQ⟩
    · exact ⟨lo, hi, hlow, hhigh, hQ⟩
  | extract key =>
    obtain ⟨b, hlook, rfl, rfl⟩ := build_extract hb
    have hl : (spaceSig sp).lookup key = some (b.shape, prod b.shape) :=
      (lookup_map_snd (fun _ (b : Box) => (b.shape, prod b.shape)) key sp.subs).trans (by rw [hlook]; rfl)
    have hb' := mem_of_lookup key sp.subs b hlook
    refine ⟨fun _ => Q key, ⟨_, hl, rfl, rfl⟩, ⟨by simp [spaceSig], fun e he => ?_⟩, fun _ => hz key,
      fun hB kb' hkb' => ?_⟩
    · simp only [spaceSig, List.map_cons, List.map_nil, List.mem_singleton] at he
      subst he
      exact ⟨(hmem _ hb').1, (hmem _ hb').2, rfl⟩
    · cases List.mem_singleton.mp hkb'
      exact hB (key, b) hb'
  | monitor | checkNan =>
    simp only [WCfg.build, Except.ok.injEq, Prod.mk.injEq] at hb
    obtain ⟨rfl, rfl⟩ := hb
    exact ⟨Q, ⟨rfl, rfl⟩, hsg, hz, id⟩

/-- the wrappers of a stack (innermost first) fit one on the other -/
def StackInv : Sig → (String → Int → Prop) → List WS → Sig → (String → Int → Prop) → Prop
  | sg, Q, [], sg', Q' => sg' = sg ∧ Q' = Q
  | sg, Q, w :: ws, sg', Q' =>
    ∃ mid midQ, WSInv sg Q w mid midQ ∧ SigOK mid ∧ (∀ k, midQ k 0) ∧ StackInv mid midQ ws sg' Q'

theorem buildStack_inv (cfgs : List WCfg) : ∀ (sp sp' : Space) (ws : List WS) (Q : String → Int → Prop),
    buildStack cfgs sp = .ok (ws, sp') → SigOK (spaceSig sp) → (∀ k, Q k 0) →
      ∃ Q', StackInv (spaceSig sp) Q ws (spaceSig sp') Q' ∧ (SpaceB sp Q → SpaceB sp' Q') := by
  induction cfgs with
  | nil =>
    intro sp sp' ws Q hb _ _
    cases hb
    exact ⟨Q, ⟨rfl, rfl⟩, id⟩
  | cons c cs ih =>
    intro sp sp' ws Q hb hsg hz
    simp only [buildStack] at hb
    split at hb
    · cases hb
    · rename_i w mid hbuild
      split at hb
      · cases hb
      · rename_i ws' sp'' hrest
        cases hb
        obtain ⟨midQ, g1, g2, g3, g4⟩ := build_inv c sp mid w hbuild hsg Q hz
        obtain ⟨Q', j1, j2⟩ := ih mid _ ws' midQ hrest g2 g3
        exact ⟨Q', ⟨spaceSig mid, midQ, g1, g2, g3, j1⟩, fun hB => j2 (g4 hB)⟩

theorem stackStep_inv (ws : List WS) : ∀ (sg : Sig) (Q : String → Int → Prop) (sg' : Sig) (Q' : String → Int → Prop),
    StackInv sg Q ws sg' Q' → SigOK sg → (∀ k, Q k 0) → ∀ (r : Rec), obsSig r.obs = sg → ObsQ Q r.obs →
      StackInv sg Q (stackStep ws r).1 sg' Q' ∧ obsSig (stackStep ws r).2.obs = sg' ∧ ObsQ Q' (stackStep ws r).2.obs := by
  induction ws with
  | nil =>
    intro sg Q sg' Q' hinv _ _ r ho hq
    obtain ⟨rfl, rfl⟩ := hinv
    exact ⟨⟨rfl, rfl⟩, ho, hq⟩
  | cons w ws ih =>
    intro sg Q sg' Q' hinv hsg hz r ho hq
    obtain ⟨mid, midQ, hw, hmid, hzm, hrest⟩ := hinv
    obtain ⟨g1, g2, g3⟩ := WS_step_inv sg mid Q midQ w hw hsg hz r ho hq
    obtain ⟨k1, k2⟩ := ih mid midQ sg' Q' hrest hmid hzm (w.step r).2 g2 g3
    exact ⟨⟨mid, midQ, g1, hmid, hzm, k1⟩, k2⟩

/-- what the invariant asks of a call (`OpOK`, and `OpIn` read through `Q`) -/
def OpInv (sg : Sig) (Q : String → Int → Prop) : Op → Prop
  | .reset o => obsSig o = sg ∧ ObsQ Q o
  | .step r => (obsSig r.obs = sg ∧ ObsQ Q r.obs) ∧ (∀ t, r.info.terminal = some t → obsSig t = sg ∧ ObsQ Q t) ∧
      (r.done = false → r.info.terminal = none)

/-- a step record that carries nothing but the observation `o` and the flag `done` -/
def bareRec (o : Obs) (done : Bool) : Rec :=
  { obs := o, rew := 0, done := done, info := { terminal := none, truncated := false, episode := none, payload := 0 } }

/-- Only `stackStep_inv` is needed: `reset` acts like a step that ends an episode, and the terminal observation
that comes out is what the stack returns for the terminal observation that went in as an ordinary one. -/
theorem stackOutputs_inv (ops : List Op) : ∀ (sg : Sig) (Q : String → Int → Prop) (sg' : Sig)
    (Q' : String → Int → Prop) (ws : List WS), StackInv sg Q ws sg' Q' → SigOK sg → (∀ k, Q k 0) →
    (∀ op ∈ ops, OpInv sg Q op) → ∀ o ∈ stackOutputs ws ops, obsSig o = sg' ∧ ObsQ Q' o := by
  induction ops with
  | nil => intro _ _ _ _ _ _ _ _ _ o ho; cases ho
  | cons op rest ih =>
    intro sg Q sg' Q' ws hinv hsg hz hops o ho
    have hrest : ∀ op' ∈ rest, OpInv sg Q op' := fun op' h => hops op' (List.mem_cons_of_mem _ h)
    have hstep := stackStep_inv ws sg Q sg' Q' hinv hsg hz
    cases op with
    | reset o0 =>
      obtain ⟨h0, h0q⟩ := hops _ List.mem_cons_self
      obtain ⟨g1, g2⟩ := hstep (bareRec o0 true) h0 h0q
      have e : stackReset ws o0 = _ := stackReset_eq_step ws (bareRec o0 true) rfl
      simp only [stackOutputs, e, List.mem_cons] at ho
      rcases ho with h | h
      · rw [h]; exact g2
      · exact ih sg Q sg' Q' _ g1 hsg hz hrest o h
    | step r =>
      obtain ⟨⟨h1, h1q⟩, h2, h3⟩ := hops _ List.mem_cons_self
      obtain ⟨g1, g2⟩ := hstep r h1 h1q
      simp only [stackOutputs, List.mem_cons, List.mem_append, Option.mem_toList] at ho
      rcases ho with h | h | h
      · rw [h]; exact g2
      · cases hterm : r.info.terminal with
        | none => rw [stackStep_terminal_none ws r hterm] at h; cases h
        | some t =>
          have hd : r.done = true := Bool.of_not_eq_false fun hdd => by rw [h3 hdd] at hterm; cases hterm
          obtain ⟨ht, htq⟩ := h2 t hterm
          rw [stackStep_terminal_alike ws r t hd hterm (h1.trans ht.symm) (keysNodup_of_sig t sg ht hsg.1)] at h
          cases h
          have e : (stackStep ws (bareRec t false)).2.obs = stackObsFn ws t :=
            stackStep_obs_ordinary ws _ rfl
          rw [← e]
          exact (hstep _ ht htq).2
      · exact ih sg Q sg' Q' _ g1 hsg hz hrest o h

theorem withinBounds_replicate_iff (lo hi : Int) (data : List Int) (N : Nat) :
    withinBounds (List.replicate N lo) (List.replicate N hi) data = true ↔
      data.length = N ∧ ∀ x ∈ data, lo ≤ x ∧ x ≤ hi := by
  rw [withinBounds_iff_WB]
  induction data generalizing N with
  | nil => cases N <;> simp [WB, List.replicate_succ]
  | cons x d ih =>
    cases N with
    | zero => simp [WB]
    | succ N =>
      simp only [List.replicate_succ, WB, ih N, List.length_cons, Nat.add_right_cancel_iff, List.mem_cons,
        forall_eq_or_imp]
      exact ⟨fun ⟨h1, h2, h3, h4⟩ => ⟨h3, ⟨h1, h2⟩, h4⟩, fun ⟨h3, ⟨h1, h2⟩, h4⟩ => ⟨h1, h2, h3, h4⟩⟩

theorem contains_iff (sp : Space) (Q : String → Int → Prop) (hB : SpaceB sp Q) (o : Obs) :
    sp.contains o = true ↔ obsSig o = spaceSig sp ∧ ObsQ Q o := by
  unfold Space.contains spaceSig obsSig ObsQ
  unfold SpaceB at hB
  generalize sp.subs = subs at hB ⊢
  induction o generalizing subs with
  | nil => cases subs <;> simp
  | cons kv o ih =>
    cases subs with
    | nil => simp
    | cons kb subs =>
      obtain ⟨lo, hi, hlow, hhigh, hQ⟩ := hB kb List.mem_cons_self
      have ih := ih subs fun kb' h => hB kb' (List.mem_cons_of_mem _ h)
      simp only [List.map_cons, List.zip_cons_cons, List.all_cons, Bool.and_eq_true, beq_iff_eq, List.cons.injEq,
        Prod.mk.injEq, List.mem_cons, forall_eq_or_imp, Box.contains, hlow, hhigh, withinBounds_replicate_iff] at ih ⊢
      constructor
      · rintro ⟨⟨hk, hks⟩, ⟨hs, hl, hx⟩, hall⟩
        obtain ⟨g1, g2⟩ := ih.mp ⟨hks, hall⟩
        exact ⟨⟨⟨hk, hs, hl⟩, g1⟩, fun x h => hk ▸ (hQ x).mpr (hx x h), g2⟩
      · rintro ⟨⟨⟨hk, hs, hl⟩, g1⟩, hx, g2⟩
        obtain ⟨hks, hall⟩ := ih.mpr ⟨g1, g2⟩
        exact ⟨⟨hk, hks⟩, ⟨hs, hl, fun x h => (hQ x).mp (hk ▸ hx x h)⟩, hall⟩

theorem exists_spaceB (sp : Space) (hsp : SpaceOK sp) (hsc : ScalarBounds sp) :
    ∃ Q : String → Int → Prop, SpaceB sp Q ∧ ∀ k, Q k 0 := by
  refine ⟨fun k x => ∀ b, sp.subs.lookup k = some b → (∀ l ∈ b.low, l ≤ x) ∧ (∀ h ∈ b.high, x ≤ h), ?_, ?_⟩
  · intro kb hkb
    obtain ⟨lo, hi, _, _, hlow, hhigh⟩ := hsc kb hkb
    have hl := lookup_of_mem sp.subs hsp.1 kb hkb
    have hpos : prod kb.2.shape ≠ 0 := Nat.ne_of_gt (hsp.2 kb hkb).2
    refine ⟨lo, hi, hlow, hhigh, fun x => ⟨fun h => ?_, fun h b hb => ?_⟩⟩
    · obtain ⟨h1, h2⟩ := h kb.2 hl
      exact ⟨h1 lo (hlow ▸ List.mem_replicate.mpr ⟨hpos, rfl⟩), h2 hi (hhigh ▸ List.mem_replicate.mpr ⟨hpos, rfl⟩)⟩
    · rw [hl] at hb
      cases hb
      rw [hlow, hhigh]
      exact ⟨fun l hl => (List.mem_replicate.mp hl).2 ▸ h.1, fun l hl => (List.mem_replicate.mp hl).2 ▸ h.2⟩
  · intro k b hb
    obtain ⟨lo, hi, hlo, hhi, hlow, hhigh⟩ := hsc (k, b) (mem_of_lookup k sp.subs b hb)
    rw [hlow, hhigh]
    exact ⟨fun l hl => (List.mem_replicate.mp hl).2 ▸ hlo, fun l hl => (List.mem_replicate.mp hl).2 ▸ hhi⟩

end SB3Verif.Lemmas.Wrappers
