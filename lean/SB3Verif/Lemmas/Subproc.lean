/-
Lemmas for C02: schedule independence of the message-passing model `SB3Verif.Subproc.Sys` and its equality with the
sequential `Dummy`.

1. `view` abstracts a worker process to (state after it has worked off its inbox, replies the parent has not received
   yet). No worker transition changes a view (FIFO determinism + isolation), and `send` / `recv` act on the views like an
   eager worker that answers at once (`asend`, `arecv`). Hence a parent program computes under ANY schedule what the
   schedule-free `arunProg` computes (`runProg_refines`).
2. One iteration of `DummyVecEnv`'s loop is one reaction of a worker once `reset_infos[i]` is paired with `envs[i]`
   (`Dummy.ws`, `Dummy.callEnv_ws`).
3. From views with nothing pending, "send to all targets, then receive from all targets" is that loop (`arun_recvs`),
   because a receive commutes to the front of later sends (`arecv_asends`).
4. Together (`runProg_recvs`, `runProg_program`); the objects' bookkeeping (`post_equiv`) and the phases `step_async` /
   `step_wait` / `close` (`run_equiv`) are put on top.
-/
import SB3Verif.Model.Subproc

namespace SB3Verif.Subproc

variable {σ α ω ρ : Type}

theorem set_self {β : Type} (l : List β) (i : Nat) (b : β) (h : l[i]? = some b) : l.set i b = l := by
  obtain ⟨hi, rfl⟩ := List.getElem?_eq_some_iff.1 h
  exact List.set_getElem_self hi

theorem set_getD_self {β : Type} (l : List β) (i : Nat) (b : β) : l.set i (l.getD i b) = l := by
  rcases Nat.lt_or_ge i l.length with h | h
  · rw [List.getD_eq_getElem?_getD, List.getElem?_eq_getElem h, Option.getD_some, List.set_getElem_self]
  · exact List.set_eq_of_length_le h

theorem getElem?_set_of_some {β : Type} (l : List β) (i : Nat) (b c : β) (h : l[i]? = some c) :
    (l.set i b)[i]? = some b := by
  rw [List.getElem?_set_self', h]
  rfl

theorem upd_map {β γ : Type} (l : List β) (i : Nat) (f : β → β) (g : β → γ) (f' : γ → γ)
    (h : ∀ b, g (f b) = f' (g b)) : (upd l i f).map g = upd (l.map g) i f' := by
  unfold upd
  rw [List.getElem?_map]
  cases l[i]? with
  | none => rfl
  | some b => simp only [Option.map_some, List.map_set, h]

theorem upd_length {β : Type} (l : List β) (i : Nat) (f : β → β) : (upd l i f).length = l.length := by
  unfold upd
  cases l[i]? <;> simp

theorem upd_some {β : Type} (l : List β) (i : Nat) (f : β → β) (b : β) (h : l[i]? = some b) :
    upd l i f = l.set i (f b) := by
  simp [upd, h]

theorem upd_none {β : Type} (l : List β) (i : Nat) (f : β → β) (h : l[i]? = none) : upd l i f = l := by
  simp [upd, h]

theorem getElem?_upd_ne {β : Type} (l : List β) (i j : Nat) (f : β → β) (h : i ≠ j) : (upd l i f)[j]? = l[j]? := by
  unfold upd
  cases l[i]? with
  | none => rfl
  | some b => exact List.getElem?_set_ne h

theorem getElem?_upd_self {β : Type} (l : List β) (i : Nat) (f : β → β) (b : β) (h : l[i]? = some b) :
    (upd l i f)[i]? = some (f b) := by
  rw [upd_some l i f b h, getElem?_set_of_some l i _ b h]

theorem upd_set_ne {β : Type} (l : List β) (i j : Nat) (f : β → β) (b : β) (h : i ≠ j) :
    upd (l.set j b) i f = (upd l i f).set j b := by
  unfold upd
  rw [List.getElem?_set_ne h.symm]
  cases l[i]? with
  | none => rfl
  | some a => exact List.set_comm _ _ h.symm

theorem upd_set_self {β : Type} (l : List β) (i : Nat) (f : β → β) (b c : β) (h : l[i]? = some c) :
    upd (l.set i b) i f = l.set i (f b) := by
  rw [upd_some _ i f b (getElem?_set_of_some l i b c h), List.set_set]

def runCmds (E : EnvSem σ α ω ρ) (w : W σ ω) : List (Cmd α ω) → W σ ω × List (Reply ω ρ)
  | [] => (w, [])
  | c :: cs =>
    ((runCmds E (Worker.react E w c).1 cs).1, (Worker.react E w c).2 :: (runCmds E (Worker.react E w c).1 cs).2)

theorem runCmds_append (E : EnvSem σ α ω ρ) (w : W σ ω) (cs : List (Cmd α ω)) (c : Cmd α ω) :
    runCmds E w (cs ++ [c]) =
      ((Worker.react E (runCmds E w cs).1 c).1, (runCmds E w cs).2 ++ [(Worker.react E (runCmds E w cs).1 c).2]) := by
  induction cs generalizing w with
  | nil => rfl
  | cons d ds ih => simp only [List.cons_append, runCmds, ih]

/-- abstract worker: (state once the inbox is worked off, replies not yet received by the parent) -/
abbrev AProc (σ ω ρ : Type) := W σ ω × List (Reply ω ρ)

def view (E : EnvSem σ α ω ρ) (p : Proc σ α ω ρ) : AProc σ ω ρ :=
  ((runCmds E p.w p.inbox).1, p.outbox ++ (runCmds E p.w p.inbox).2)

def asendP (E : EnvSem σ α ω ρ) (a : AProc σ ω ρ) (c : Cmd α ω) : AProc σ ω ρ :=
  ((Worker.react E a.1 c).1, a.2 ++ [(Worker.react E a.1 c).2])

def arecvP (a : AProc σ ω ρ) : Option (AProc σ ω ρ × Reply ω ρ) :=
  match a.2 with
  | [] => none
  | r :: q => some ((a.1, q), r)

theorem view_fire (E : EnvSem σ α ω ρ) (p : Proc σ α ω ρ) : view E (p.fire E) = view E p := by
  unfold Proc.fire view
  cases h : p.inbox with
  | nil => simp [h]
  | cons c cs => simp [runCmds, List.append_assoc]

theorem view_send (E : EnvSem σ α ω ρ) (p : Proc σ α ω ρ) (c : Cmd α ω) :
    view E (p.send c) = asendP E (view E p) c := by
  simp only [Proc.send, view, asendP, runCmds_append, List.append_assoc]

theorem view_recv (E : EnvSem σ α ω ρ) (p : Proc σ α ω ρ) :
    (p.recv E).map (fun x => (view E x.1, x.2)) = arecvP (view E p) := by
  unfold Proc.recv view arecvP
  cases p.outbox with
  | cons r rest => rfl
  | nil => cases p.inbox <;> rfl

def asend (E : EnvSem σ α ω ρ) (aps : List (AProc σ ω ρ)) (i : Nat) (c : Cmd α ω) : List (AProc σ ω ρ) :=
  upd aps i (fun a => asendP E a c)

def arecv (aps : List (AProc σ ω ρ)) (i : Nat) : Option (List (AProc σ ω ρ) × Reply ω ρ) :=
  match aps[i]? with
  | none => none
  | some a =>
    match arecvP a with
    | none => none
    | some x => some (aps.set i x.1, x.2)

def arunProg (E : EnvSem σ α ω ρ) (aps : List (AProc σ ω ρ)) :
    List (PAct α ω) → Option (List (AProc σ ω ρ) × List (Reply ω ρ))
  | [] => some (aps, [])
  | .send i c :: rest => arunProg E (asend E aps i c) rest
  | .recv i :: rest =>
    match arecv aps i with
    | none => none
    | some x =>
      match arunProg E x.1 rest with
      | none => none
      | some y => some (y.1, x.2 :: y.2)

theorem views_fire (E : EnvSem σ α ω ρ) (ps : List (Proc σ α ω ρ)) (j : Nat) :
    (fire E ps j).map (view E) = ps.map (view E) := by
  unfold fire
  rw [upd_map ps j (Proc.fire E) (view E) id (fun b => view_fire E b)]
  cases h : (ps.map (view E))[j]? with
  | none => exact upd_none _ j id h
  | some b => exact (upd_some _ j id b h).trans (set_self _ j b h)

theorem views_fireAll (E : EnvSem σ α ω ρ) (ps : List (Proc σ α ω ρ)) (js : List Nat) :
    (fireAll E ps js).map (view E) = ps.map (view E) := by
  unfold fireAll
  induction js generalizing ps with
  | nil => rfl
  | cons j js ih => simp only [List.foldl_cons]; rw [ih, views_fire]

theorem views_send (E : EnvSem σ α ω ρ) (ps : List (Proc σ α ω ρ)) (i : Nat) (c : Cmd α ω) :
    (send ps i c).map (view E) = asend E (ps.map (view E)) i c := by
  unfold send asend
  exact upd_map ps i _ (view E) _ (fun b => view_send E b c)

theorem views_recv (E : EnvSem σ α ω ρ) (ps : List (Proc σ α ω ρ)) (i : Nat) :
    (recv E ps i).map (fun x => (x.1.map (view E), x.2)) = arecv (ps.map (view E)) i := by
  unfold recv arecv
  rw [List.getElem?_map]
  cases ps[i]? with
  | none => rfl
  | some p =>
    simp only [Option.map_some]
    rw [← view_recv]
    cases p.recv E with
    | none => rfl
    | some x => simp only [Option.map_some, List.map_set]

/-- **Schedule independence.** Whatever worker transitions the schedule interleaves, a parent program produces
the replies (and leaves the views) of the schedule-free eager system; in particular it dead-locks under one
schedule iff it does under every schedule. -/
theorem runProg_refines (E : EnvSem σ α ω ρ) (ps : List (Proc σ α ω ρ)) (sch : Sched) (prog : List (PAct α ω)) :
    (runProg E ps sch prog).map (fun x => (x.1.map (view E), x.2.2)) = arunProg E (ps.map (view E)) prog := by
  induction prog generalizing ps sch with
  | nil => rfl
  | cons a rest ih =>
    cases a with
    | send i c =>
      simp only [runProg, arunProg]
      rw [ih, views_send, views_fireAll]
    | recv i =>
      simp only [runProg, arunProg]
      rw [← views_fireAll E ps (sch.headD []), ← views_recv]
      cases recv E (fireAll E ps (sch.headD [])) i with
      | none => rfl
      | some x =>
        simp only [Option.map_some]
        rw [← ih x.1 sch.tail]
        cases runProg E x.1 sch.tail rest <;> rfl

theorem runProg_some (E : EnvSem σ α ω ρ) (ps : List (Proc σ α ω ρ)) (sch : Sched) (prog : List (PAct α ω))
    (aps : List (AProc σ ω ρ)) (rs : List (Reply ω ρ)) (h : arunProg E (ps.map (view E)) prog = some (aps, rs)) :
    ∃ ps' sch', runProg E ps sch prog = some (ps', sch', rs) ∧ ps'.map (view E) = aps := by
  rw [← runProg_refines E ps sch prog] at h
  obtain ⟨x, hx, hh⟩ := Option.map_eq_some_iff.1 h
  obtain ⟨h1, h2⟩ := Prod.mk.inj hh
  exact ⟨x.1, x.2.1, by rw [hx, ← h2], h1⟩

/-- A parent program may be cut anywhere into two calls (e.g. `step_async` / `step_wait`): the second call continues
with the pipes and the rest of the schedule left by the first. -/
theorem runProg_append (E : EnvSem σ α ω ρ) (ps : List (Proc σ α ω ρ)) (sch : Sched) (A B : List (PAct α ω)) :
    runProg E ps sch (A ++ B) =
      (runProg E ps sch A).bind fun x =>
        (runProg E x.1 x.2.1 B).map fun y => (y.1, y.2.1, x.2.2 ++ y.2.2) := by
  induction A generalizing ps sch with
  | nil =>
    simp only [List.nil_append, runProg, Option.bind_some, List.nil_append]
    cases runProg E ps sch B <;> rfl
  | cons a rest ih =>
    cases a with
    | send i c => simp only [List.cons_append, runProg]; exact ih _ _
    | recv i =>
      simp only [List.cons_append, runProg]
      cases recv E (fireAll E ps (sch.headD [])) i with
      | none => rfl
      | some x =>
        simp only []
        rw [ih]
        cases runProg E x.1 sch.tail rest with
        | none => rfl
        | some y =>
          simp only [Option.bind_some]
          cases runProg E y.1 y.2.1 B <;> rfl

def quiet (ws : List (W σ ω)) : List (AProc σ ω ρ) := ws.map fun w => (w, [])

def asends (E : EnvSem σ α ω ρ) (aps : List (AProc σ ω ρ)) : List (Nat × Cmd α ω) → List (AProc σ ω ρ)
  | [] => aps
  | (i, c) :: rest => asends E (asend E aps i c) rest

theorem arunProg_sends (E : EnvSem σ α ω ρ) (aps : List (AProc σ ω ρ)) (pl : List (Nat × Cmd α ω))
    (prog : List (PAct α ω)) :
    arunProg E aps (pl.map (fun x => PAct.send x.1 x.2) ++ prog) = arunProg E (asends E aps pl) prog := by
  induction pl generalizing aps with
  | nil => rfl
  | cons x rest ih => obtain ⟨i, c⟩ := x; simp only [List.map_cons, List.cons_append, arunProg, asends]; exact ih _

/-- A reply that is already waiting in pipe `i` stays the oldest one whatever is sent afterwards, to whomever:
receiving it after the sends = receiving it before them. -/
theorem arecv_asends (E : EnvSem σ α ω ρ) (pl : List (Nat × Cmd α ω)) (aps : List (AProc σ ω ρ)) (i : Nat)
    (w : W σ ω) (r : Reply ω ρ) (q : List (Reply ω ρ)) (h : aps[i]? = some (w, r :: q)) :
    arecv (asends E aps pl) i = some (asends E (aps.set i (w, q)) pl, r) := by
  induction pl generalizing aps w q with
  | nil =>
    unfold asends arecv
    rw [h]
    rfl
  | cons x rest ih =>
    obtain ⟨j, c⟩ := x
    simp only [asends, asend]
    by_cases hji : j = i
    · subst hji
      rw [ih _ _ _ (getElem?_upd_self _ _ _ _ h), upd_some _ _ _ _ h, List.set_set, upd_set_self _ _ _ _ _ h]
      rfl
    · rw [ih _ _ _ ((getElem?_upd_ne _ _ _ _ hji).trans h), upd_set_ne _ _ _ _ _ hji]

theorem quiet_set (ws : List (W σ ω)) (i : Nat) (w : W σ ω) :
    (quiet (ws.set i w) : List (AProc σ ω ρ)) = (quiet ws).set i (w, []) := List.map_set

theorem arunProg_sends_nil (E : EnvSem σ α ω ρ) (aps : List (AProc σ ω ρ)) (pl : List (Nat × Cmd α ω)) :
    arunProg E aps (sendsOf pl) = some (asends E aps pl, []) := by
  have := arunProg_sends E aps pl []
  simp only [List.append_nil, arunProg] at this
  exact this

theorem asends_length (E : EnvSem σ α ω ρ) (aps : List (AProc σ ω ρ)) (pl : List (Nat × Cmd α ω)) :
    (asends E aps pl).length = aps.length := by
  induction pl generalizing aps with
  | nil => rfl
  | cons x rest ih => obtain ⟨i, c⟩ := x; simp only [asends]; rw [ih]; exact upd_length _ _ _

/-! ### plans that address sub-environment `j` with command `j` (`enumerate`, `zip(self.remotes, actions)`) -/

/-- the commands whose reply carries the worker's `reset_info` (`step`, `reset`): after them the parent replaces its
`reset_infos` by what it gathers from the replies; the others leave `reset_info` alone -/
def Cmd.resetting : Cmd α ω → Prop
  | .step _ => True
  | .reset _ _ => True
  | _ => False

theorem react_resetInfo (E : EnvSem σ α ω ρ) (w : W σ ω) (c : Cmd α ω) (h : c.resetting) :
    (Worker.react E w c).2.resetInfo? = some (Worker.react E w c).1.resetInfo := by
  cases c with
  | step a => simp only [Worker.react]; split <;> rfl
  | reset seed opts => rfl
  | _ => cases h

theorem react_resetInfo_of_not_resetting (E : EnvSem σ α ω ρ) (w : W σ ω) (c : Cmd α ω) (h : ¬ c.resetting) :
    (Worker.react E w c).1.resetInfo = w.resetInfo := by
  cases c with
  | step a => exact absurd trivial h
  | reset seed opts => exact absurd trivial h
  | _ => rfl

theorem indexedFrom_fst {β : Type} (k : Nat) (cs : List β) :
    (indexedFrom k cs).map (fun x => x.1) = List.range' k cs.length := by
  induction cs generalizing k with
  | nil => rfl
  | cons c cs ih => simp only [indexedFrom, List.map_cons, ih, List.length_cons, List.range'_succ]

theorem indexedFrom_map_lt {β γ : Type} (f : β → γ) (l : List β) : ∀ x ∈ indexedFrom 0 (l.map f), x.1 < l.length := by
  intro x hx
  have := List.mem_map_of_mem (f := fun x => x.1) hx
  rw [indexedFrom_fst, List.length_map] at this
  exact (Nat.zero_add l.length) ▸ (List.mem_range'_1.1 this).2

theorem append_cons_at {β : Type} (pre : List β) (m x : β) (ms : List β) :
    (pre ++ m :: ms)[pre.length]? = some m ∧
    (pre ++ m :: ms).set pre.length x = (pre ++ [x]) ++ ms ∧ pre.length + 1 = (pre ++ [x]).length := by
  refine ⟨?_, ?_, (List.length_append (as := pre) (bs := [x])).symm⟩
  · rw [List.getElem?_append_right (Nat.le_refl _), Nat.sub_self]
    rfl
  · rw [List.set_append_right _ _ (Nat.le_refl _), Nat.sub_self, List.append_assoc]
    rfl

theorem zipWith_react_resetInfo (E : EnvSem σ α ω ρ) (ws : List (W σ ω)) (cs : List (Cmd α ω))
    (hr : ∀ c ∈ cs, c.resetting) :
    (List.zipWith (fun w c => (Worker.react E w c).2) ws cs).filterMap Reply.resetInfo? =
      (List.zipWith (fun w c => (Worker.react E w c).1) ws cs).map (fun w => w.resetInfo) := by
  induction ws generalizing cs with
  | nil => rfl
  | cons w ws ih =>
    cases cs with
    | nil => rfl
    | cons c cs =>
      simp only [List.zipWith_cons_cons, List.filterMap_cons, List.map_cons]
      rw [react_resetInfo E w c (hr c List.mem_cons_self), ih cs (fun c' h => hr c' (List.mem_cons_of_mem _ h))]

theorem asends_indexed (E : EnvSem σ α ω ρ) (cs : List (Cmd α ω)) (pre : List (AProc σ ω ρ)) (mid : List (W σ ω))
    (hlen : cs.length = mid.length) :
    asends E (pre ++ quiet mid) (indexedFrom pre.length cs) =
      pre ++ List.zipWith (fun w c => ((Worker.react E w c).1, [(Worker.react E w c).2])) mid cs := by
  induction cs generalizing pre mid with
  | nil =>
    cases mid with
    | nil => rfl
    | cons m ms => cases hlen
  | cons c cs ih =>
    cases mid with
    | nil => cases hlen
    | cons m ms =>
      obtain ⟨hget, hset, hidx⟩ := append_cons_at pre (m, []) (asendP E (m, []) c) (quiet ms)
      simp only [indexedFrom, asends, asend]
      rw [show quiet (m :: ms) = ((m, []) :: quiet ms : List (AProc σ ω ρ)) from rfl, upd_some _ _ _ _ hget, hset,
        hidx, ih _ ms (Nat.succ.inj hlen), List.append_assoc]
      rfl

theorem zipWith_set_both {β γ δ : Type} (f : β → γ → δ) (l1 : List β) (l2 : List γ) (i : Nat) (a : β) (b : γ) :
    List.zipWith f (l1.set i a) (l2.set i b) = (List.zipWith f l1 l2).set i (f a b) := by
  induction l1 generalizing l2 i with
  | nil => simp
  | cons x xs ih =>
    cases l2 with
    | nil => simp
    | cons y ys =>
      cases i with
      | zero => simp
      | succ k => simp [ih]

/-- the worker-shaped reading of `DummyVecEnv`'s state: `envs[i]` paired with `reset_infos[i]` -/
def Dummy.ws (d : Dummy σ ω) : List (W σ ω) := List.zipWith W.mk d.envs d.resetInfos

theorem Dummy.ws_getElem? (d : Dummy σ ω) (i : Nat) :
    (Dummy.ws d)[i]? = match d.envs[i]?, d.resetInfos[i]? with
      | some e, some ri => some ⟨e, ri⟩
      | _, _ => none := by
  unfold Dummy.ws
  rw [List.getElem?_zipWith]
  cases d.envs[i]? <;> cases d.resetInfos[i]? <;> rfl

theorem Dummy.ws_unzip (d : Dummy σ ω) (h : d.envs.length = d.resetInfos.length) :
    (Dummy.ws d).map (fun w => w.env) = d.envs ∧ (Dummy.ws d).map (fun w => w.resetInfo) = d.resetInfos := by
  unfold Dummy.ws
  rw [List.map_zipWith, List.map_zipWith]
  exact ⟨List.map_uncurry_zip_eq_zipWith.symm.trans (List.map_fst_zip (Nat.le_of_eq h)),
    List.map_uncurry_zip_eq_zipWith.symm.trans (List.map_snd_zip (Nat.le_of_eq h.symm))⟩

theorem Dummy.ws_length (d : Dummy σ ω) (hlen : d.envs.length = d.resetInfos.length) :
    (Dummy.ws d).length = d.envs.length := by
  unfold Dummy.ws
  rw [List.length_zipWith, ← hlen, Nat.min_self]

theorem Dummy.callEnv_none (E : EnvSem σ α ω ρ) (d : Dummy σ ω) (i : Nat) (c : Cmd α ω) (he : d.envs[i]? = none) :
    Dummy.callEnv E d i c = (d, .val .none) := by
  unfold Dummy.callEnv
  rw [he]

/-- One loop iteration of `DummyVecEnv` is one reaction of a worker holding `envs[i]` and `reset_infos[i]`, written
back into both lists: where the code leaves a list alone it holds that value already. -/
theorem Dummy.callEnv_some (E : EnvSem σ α ω ρ) (d : Dummy σ ω) (i : Nat) (c : Cmd α ω) (e : σ)
    (he : d.envs[i]? = some e) :
    Dummy.callEnv E d i c =
      ({ d with
          envs := d.envs.set i (Worker.react E ⟨e, d.resetInfos.getD i []⟩ c).1.env
          resetInfos := d.resetInfos.set i (Worker.react E ⟨e, d.resetInfos.getD i []⟩ c).1.resetInfo },
        (Worker.react E ⟨e, d.resetInfos.getD i []⟩ c).2) := by
  have h1 := set_self d.envs i e he
  have h2 := set_getD_self d.resetInfos i []
  unfold Dummy.callEnv
  rw [he]
  cases c with
  | step a => simp only [Worker.react]; split <;> simp only [h2]
  | reset seed opts => rfl
  | getAttr name => simp only [Worker.react, h1, h2]
  | setAttr name v => simp only [Worker.react, h2]
  | envMethod name args => simp only [Worker.react, h2]
  | isWrapped cls => simp only [Worker.react, h1, h2]
  | close => simp only [Worker.react, h2]

/-- What no command changes in a `DummyVecEnv`: `d'` has as many environments and `reset_infos` slots as `d`, and the
seeds and options of `d`. -/
structure Dummy.Frame (d' d : Dummy σ ω) : Prop where
  envs : d'.envs.length = d.envs.length
  resetInfos : d'.resetInfos.length = d.resetInfos.length
  seeds : d'.seeds = d.seeds
  options : d'.options = d.options

theorem Dummy.callEnv_frame (E : EnvSem σ α ω ρ) (d : Dummy σ ω) (i : Nat) (c : Cmd α ω) :
    Dummy.Frame (Dummy.callEnv E d i c).1 d := by
  cases he : d.envs[i]? with
  | none => rw [Dummy.callEnv_none E d i c he]; exact ⟨rfl, rfl, rfl, rfl⟩
  | some e => rw [Dummy.callEnv_some E d i c e he]; exact ⟨List.length_set, List.length_set, rfl, rfl⟩

theorem Dummy.loop_frame (E : EnvSem σ α ω ρ) (pl : List (Nat × Cmd α ω)) (d : Dummy σ ω) :
    Dummy.Frame (Dummy.loop E d pl).1 d := by
  induction pl generalizing d with
  | nil => exact ⟨rfl, rfl, rfl, rfl⟩
  | cons x rest ih =>
    have a := Dummy.callEnv_frame E d x.1 x.2
    have b := ih (Dummy.callEnv E d x.1 x.2).1
    exact ⟨b.envs.trans a.envs, b.resetInfos.trans a.resetInfos, b.seeds.trans a.seeds, b.options.trans a.options⟩

theorem Dummy.callEnv_untouched (E : EnvSem σ α ω ρ) (d : Dummy σ ω) (i j : Nat) (c : Cmd α ω) (h : i ≠ j) :
    (Dummy.callEnv E d i c).1.envs[j]? = d.envs[j]? ∧
    (Dummy.callEnv E d i c).1.resetInfos[j]? = d.resetInfos[j]? := by
  cases he : d.envs[i]? with
  | none => rw [Dummy.callEnv_none E d i c he]; exact ⟨rfl, rfl⟩
  | some e => rw [Dummy.callEnv_some E d i c e he]; exact ⟨List.getElem?_set_ne h, List.getElem?_set_ne h⟩

theorem Dummy.loop_untouched (E : EnvSem σ α ω ρ) (pl : List (Nat × Cmd α ω)) (d : Dummy σ ω) (j : Nat)
    (h : ∀ x ∈ pl, x.1 ≠ j) :
    (Dummy.loop E d pl).1.envs[j]? = d.envs[j]? ∧ (Dummy.loop E d pl).1.resetInfos[j]? = d.resetInfos[j]? := by
  induction pl generalizing d with
  | nil => exact ⟨rfl, rfl⟩
  | cons x rest ih =>
    obtain ⟨h1, h2⟩ := ih (Dummy.callEnv E d x.1 x.2).1 (fun y hy => h y (List.mem_cons_of_mem _ hy))
    obtain ⟨g1, g2⟩ := Dummy.callEnv_untouched E d x.1 j x.2 (h x List.mem_cons_self)
    exact ⟨h1.trans g1, h2.trans g2⟩

theorem Dummy.callEnv_resetInfos (E : EnvSem σ α ω ρ) (d : Dummy σ ω) (i : Nat) (c : Cmd α ω)
    (h : ¬ c.resetting) : (Dummy.callEnv E d i c).1.resetInfos = d.resetInfos := by
  cases he : d.envs[i]? with
  | none => rw [Dummy.callEnv_none E d i c he]
  | some e =>
    rw [Dummy.callEnv_some E d i c e he]
    exact (congrArg _ (react_resetInfo_of_not_resetting E _ c h)).trans (set_getD_self _ _ _)

theorem Dummy.loop_resetInfos (E : EnvSem σ α ω ρ) (pl : List (Nat × Cmd α ω)) (d : Dummy σ ω)
    (h : ∀ x ∈ pl, ¬ x.2.resetting) : (Dummy.loop E d pl).1.resetInfos = d.resetInfos := by
  induction pl generalizing d with
  | nil => rfl
  | cons x rest ih =>
    exact (ih _ (fun y hy => h y (List.mem_cons_of_mem _ hy))).trans
      (Dummy.callEnv_resetInfos E d x.1 x.2 (h x List.mem_cons_self))

/-- One loop iteration of `DummyVecEnv` for an existing sub-environment is one reaction of the worker holding `envs[i]`
and `reset_infos[i]`. -/
theorem Dummy.callEnv_ws (E : EnvSem σ α ω ρ) (d : Dummy σ ω) (i : Nat) (c : Cmd α ω) (w : W σ ω)
    (hw : (Dummy.ws d)[i]? = some w) :
    (Dummy.callEnv E d i c).2 = (Worker.react E w c).2 ∧
    Dummy.ws (Dummy.callEnv E d i c).1 = (Dummy.ws d).set i (Worker.react E w c).1 := by
  rw [Dummy.ws_getElem?] at hw
  split at hw
  · next e ri he hr =>
    cases hw
    rw [Dummy.callEnv_some E d i c e he, List.getD_eq_getElem?_getD, hr]
    exact ⟨rfl, zipWith_set_both W.mk _ _ _ _ _⟩
  · cases hw

theorem Dummy.loop_indexedFrom (E : EnvSem σ α ω ρ) (cs : List (Cmd α ω)) (d : Dummy σ ω) (pre mid : List (W σ ω))
    (hws : Dummy.ws d = pre ++ mid) (hlen : cs.length = mid.length) :
    Dummy.ws (Dummy.loop E d (indexedFrom pre.length cs)).1 =
      pre ++ List.zipWith (fun w c => (Worker.react E w c).1) mid cs ∧
    (Dummy.loop E d (indexedFrom pre.length cs)).2 = List.zipWith (fun w c => (Worker.react E w c).2) mid cs := by
  induction cs generalizing d pre mid with
  | nil =>
    cases mid with
    | nil => exact ⟨hws, rfl⟩
    | cons m ms => cases hlen
  | cons c cs ih =>
    cases mid with
    | nil => cases hlen
    | cons m ms =>
      obtain ⟨hget, hset, hidx⟩ := append_cons_at pre m (Worker.react E m c).1 ms
      obtain ⟨h1, h2⟩ := Dummy.callEnv_ws E d pre.length c m (hws ▸ hget)
      have ih' := ih (Dummy.callEnv E d pre.length c).1 _ ms (h2.trans (hws ▸ hset)) (Nat.succ.inj hlen)
      rw [← hidx] at ih'
      exact ⟨ih'.1.trans (List.append_assoc _ _ _), by rw [List.zipWith_cons_cons, ← h1, ← ih'.2]; rfl⟩

/-- **Slot `j` is sub-environment `j`** in a loop over `enumerate(…)`. -/
theorem Dummy.loop_indexed (E : EnvSem σ α ω ρ) (cs : List (Cmd α ω)) (d : Dummy σ ω)
    (hlen : d.envs.length = d.resetInfos.length) (hcs : cs.length = d.envs.length) :
    Dummy.ws (Dummy.loop E d (indexedFrom 0 cs)).1 = List.zipWith (fun w c => (Worker.react E w c).1) (Dummy.ws d) cs ∧
    (Dummy.loop E d (indexedFrom 0 cs)).2 = List.zipWith (fun w c => (Worker.react E w c).2) (Dummy.ws d) cs :=
  Dummy.loop_indexedFrom E cs d [] (Dummy.ws d) rfl (hcs.trans (Dummy.ws_length d hlen).symm)

/-- `reset_infos` gathered from the replies of a `reset` / `step` = the list `DummyVecEnv` has written in place -/
theorem Dummy.loop_gather (E : EnvSem σ α ω ρ) (cs : List (Cmd α ω)) (d : Dummy σ ω)
    (hlen : d.envs.length = d.resetInfos.length) (hcs : cs.length = d.envs.length) (hr : ∀ c ∈ cs, c.resetting) :
    (Dummy.loop E d (indexedFrom 0 cs)).2.filterMap Reply.resetInfo? =
      (Dummy.loop E d (indexedFrom 0 cs)).1.resetInfos := by
  obtain ⟨h1, h2⟩ := Dummy.loop_indexed E cs d hlen hcs
  have fr := Dummy.loop_frame E (indexedFrom 0 cs) d
  rw [h2, zipWith_react_resetInfo E _ _ hr, ← h1,
    (Dummy.ws_unzip _ (fr.envs.trans (hlen.trans fr.resetInfos.symm))).2]

theorem Dummy.loop_getAttr (E : EnvSem σ α ω ρ) (name : String) (idxs : List Nat) (d : Dummy σ ω)
    (h : ∀ i ∈ idxs, i < d.envs.length) :
    (Dummy.loop E d (idxs.map fun i => (i, (Cmd.getAttr name : Cmd α ω)))).1 = d ∧
    ((Dummy.loop E d (idxs.map fun i => (i, (Cmd.getAttr name : Cmd α ω)))).2.filterMap Reply.val?).map some =
      idxs.map (fun i => d.envs[i]?.map (fun e => E.getAttr e name)) := by
  induction idxs with
  | nil => exact ⟨rfl, rfl⟩
  | cons i rest ih =>
    obtain ⟨e, he⟩ : ∃ e, d.envs[i]? = some e := ⟨_, List.getElem?_eq_getElem (h i List.mem_cons_self)⟩
    have hc : Dummy.callEnv E d i (Cmd.getAttr name : Cmd α ω) = (d, .val (E.getAttr e name)) := by
      unfold Dummy.callEnv
      rw [he]
    obtain ⟨h1, h2⟩ := ih (fun j hj => h j (List.mem_cons_of_mem _ hj))
    simp only [List.map_cons, Dummy.loop, hc, he]
    exact ⟨h1, congrArg _ h2⟩

/-- **Send to all targets from a state in which no reply is pending, then receive from all targets = `DummyVecEnv`'s
loop**, for every plan (any order, repetitions allowed) that addresses existing sub-environments. Never dead-locks.
Each iteration is one worker reaction (`Dummy.callEnv_ws`) whose reply may be received before the later sends
(`arecv_asends`). -/
theorem arun_recvs (E : EnvSem σ α ω ρ) (pl : List (Nat × Cmd α ω)) (d : Dummy σ ω)
    (hlen : d.envs.length = d.resetInfos.length) (hv : ∀ x ∈ pl, x.1 < d.envs.length) :
    arunProg E (asends E (quiet (Dummy.ws d)) pl) (pl.map fun x => PAct.recv x.1) =
      some (quiet (Dummy.ws (Dummy.loop E d pl).1), (Dummy.loop E d pl).2) := by
  induction pl generalizing d with
  | nil => rfl
  | cons x rest ih =>
    obtain ⟨i, c⟩ := x
    obtain ⟨w, hw⟩ : ∃ w, (Dummy.ws d)[i]? = some w :=
      ⟨_, List.getElem?_eq_getElem (Dummy.ws_length d hlen ▸ hv (i, c) List.mem_cons_self)⟩
    obtain ⟨h1, h2⟩ := Dummy.callEnv_ws E d i c w hw
    have fr := Dummy.callEnv_frame E d i c
    have hq : (quiet (Dummy.ws d) : List (AProc σ ω ρ))[i]? = some (w, []) := by
      unfold quiet
      rw [List.getElem?_map, hw]
      rfl
    simp only [asends, asend, List.map_cons, arunProg, Dummy.loop]
    rw [arecv_asends E rest _ i _ _ [] (getElem?_upd_self _ _ _ _ hq), upd_some _ _ _ _ hq, List.set_set, ← quiet_set,
      ← h2]
    simp only []
    rw [ih _ (fr.envs.trans (hlen.trans fr.resetInfos.symm))
      (fun x hx => fr.envs ▸ hv x (List.mem_cons_of_mem _ hx)), h1]

/-- `SubprocVecEnv` state `s` and `DummyVecEnv` state `d` are in step: no reply is pending, every worker — once it has
worked off its pipe — holds Dummy's `envs[i]` and, in its local variable `reset_info`, Dummy's `reset_infos[i]`;
the parents' `reset_infos`, `_seeds`, `_options` coincide. -/
structure Rel (E : EnvSem σ α ω ρ) (s : Sys σ α ω ρ) (d : Dummy σ ω) : Prop where
  views : s.procs.map (view E) = quiet (Dummy.ws d)
  ri : s.resetInfos = d.resetInfos
  seeds : s.seeds = d.seeds
  options : s.options = d.options
  len : d.envs.length = d.resetInfos.length

/-- `s` and `d` are in step except that the commands `pl` have been sent and not yet answered (`Rel`: `pl = []`). -/
structure Pend (E : EnvSem σ α ω ρ) (s : Sys σ α ω ρ) (d : Dummy σ ω) (pl : List (Nat × Cmd α ω)) : Prop where
  views : s.procs.map (view E) = asends E (quiet (Dummy.ws d)) pl
  ri : s.resetInfos = d.resetInfos
  seeds : s.seeds = d.seeds
  options : s.options = d.options
  len : d.envs.length = d.resetInfos.length

theorem Rel.pend {E : EnvSem σ α ω ρ} {s : Sys σ α ω ρ} {d : Dummy σ ω} (R : Rel E s d) : Pend E s d [] :=
  ⟨R.views, R.ri, R.seeds, R.options, R.len⟩

theorem Pend.n {E : EnvSem σ α ω ρ} {s : Sys σ α ω ρ} {d : Dummy σ ω} {pl : List (Nat × Cmd α ω)} (P : Pend E s d pl) :
    s.procs.length = d.envs.length := by
  have := congrArg List.length P.views
  rwa [List.length_map, asends_length, quiet, List.length_map, Dummy.ws_length d P.len] at this

theorem Rel.n (E : EnvSem σ α ω ρ) {s : Sys σ α ω ρ} {d : Dummy σ ω} (R : Rel E s d) :
    s.procs.length = d.envs.length :=
  R.pend.n

theorem Rel.init (E : EnvSem σ α ω ρ) (envs : List σ) : Rel E (Sys.init envs : Sys σ α ω ρ) (Dummy.init envs) := by
  refine ⟨?_, rfl, rfl, rfl, List.length_replicate.symm⟩
  simp only [Sys.init, Dummy.init, quiet, Dummy.ws, List.map_map]
  induction envs with
  | nil => rfl
  | cons e es ih =>
    simp only [List.map_cons, List.length_cons, List.replicate_succ, List.zipWith_cons_cons]
    rw [ih]
    rfl

theorem plan_valid (n : Nat) (seeds : List (Option Int)) (options : List Opts) (op : Op α ω) (hv : op.valid n) :
    ∀ x ∈ plan n seeds options op, x.1 < n := by
  cases op with
  | seed s => exact fun _ h => nomatch h
  | setOptions o => exact fun _ h => nomatch h
  | reset => exact fun x hx => List.length_range (n := n) ▸ indexedFrom_map_lt _ (List.range n) x hx
  | step acts => exact fun x hx => (hv : acts.length = n) ▸ indexedFrom_map_lt _ acts x hx
  | getAttr name idx => exact List.forall_mem_map.2 hv
  | setAttr name v idx => exact List.forall_mem_map.2 hv
  | envMethod name args idx => exact List.forall_mem_map.2 hv
  | isWrapped cls idx => exact List.forall_mem_map.2 hv

theorem Dummy.post_envs (d : Dummy σ ω) (op : Op α ω) : (Dummy.post d op).envs = d.envs := by
  cases op <;> rfl

theorem Dummy.post_resetInfos (d : Dummy σ ω) (op : Op α ω) : (Dummy.post d op).resetInfos = d.resetInfos := by
  cases op <;> rfl

theorem post_rel (E : EnvSem σ α ω ρ) (s : Sys σ α ω ρ) (d : Dummy σ ω) (op : Op α ω)
    (procs : List (Proc σ α ω ρ)) (replies : List (Reply ω ρ))
    (hn : s.procs.length = d.envs.length) (hseeds : s.seeds = d.seeds) (hoptions : s.options = d.options)
    (hlen : d.envs.length = d.resetInfos.length) (hviews : procs.map (view E) = quiet (Dummy.ws d))
    (hri : (Sys.post s procs replies op).resetInfos = d.resetInfos) :
    Rel E (Sys.post s procs replies op) (Dummy.post d op) := by
  cases op with
  | seed sd => exact ⟨hviews, hri, congrArg (seedList · sd) hn, hoptions, hlen⟩
  | setOptions o => exact ⟨hviews, hri, hseeds, congrArg (setOptionsList · o) hn, hlen⟩
  | reset => exact ⟨hviews, hri, congrArg (List.replicate · none) hn, congrArg (List.replicate · []) hn, hlen⟩
  | _ => exact ⟨hviews, hri, hseeds, hoptions, hlen⟩

/-- bookkeeping after the receive loop, `(d', rs)` being what Dummy's loop returns: if the pipes are drained onto `d'`
and the replies are `rs`, the return values agree and the objects are in step again; `reset_infos` is the only field that
depends on the kind of operation (gathered from the replies of `reset` / `step`, untouched by the others) -/
theorem post_equiv (E : EnvSem σ α ω ρ) (s : Sys σ α ω ρ) (d : Dummy σ ω) (op : Op α ω)
    (procs : List (Proc σ α ω ρ)) (d' : Dummy σ ω) (rs : List (Reply ω ρ))
    (hl : Dummy.loop E d (plan d.envs.length d.seeds d.options op) = (d', rs))
    {pl : List (Nat × Cmd α ω)} (P : Pend E s d pl)
    (hv : op.valid d.envs.length) (hviews : procs.map (view E) = quiet (Dummy.ws d')) :
    assemble op d.envs.length rs (Sys.post s procs rs op).resetInfos = (Dummy.runOpRaw E d op).2 ∧
    Rel E (Sys.post s procs rs op) (Dummy.runOpRaw E d op).1 := by
  obtain ⟨rfl, rfl⟩ := Prod.mk.inj hl
  have fr := Dummy.loop_frame E (plan d.envs.length d.seeds d.options op) d
  have hri' : (Sys.post s procs (Dummy.loop E d (plan d.envs.length d.seeds d.options op)).2 op).resetInfos =
      (Dummy.loop E d (plan d.envs.length d.seeds d.options op)).1.resetInfos := by
    cases op with
    | seed sd => exact P.ri
    | setOptions o => exact P.ri
    | reset => exact Dummy.loop_gather E _ d P.len (by rw [List.length_map, List.length_range]) (List.forall_mem_map.2 fun _ _ => trivial)
    | step acts =>
      exact Dummy.loop_gather E _ d P.len (by rw [List.length_map]; exact hv) (List.forall_mem_map.2 fun _ _ => trivial)
    | _ =>
      -- `get_attr`, `set_attr`, `env_method`, `env_is_wrapped`: no command of the plan touches `reset_info`
      exact P.ri.trans (Dummy.loop_resetInfos E _ d (List.forall_mem_map.2 fun _ _ => id)).symm
  have R := post_rel E s _ op procs _ (P.n.trans fr.envs.symm) (P.seeds.trans fr.seeds.symm)
    (P.options.trans fr.options.symm) (fr.envs.trans (P.len.trans fr.resetInfos.symm)) hviews hri'
  refine ⟨?_, R⟩
  unfold Dummy.runOpRaw
  rw [R.ri]

/-- **Receive what has been sent, under any schedule = `DummyVecEnv`'s loop**, the commands `pl` having been sent
from pipes drained onto `d`. -/
theorem runProg_recvs (E : EnvSem σ α ω ρ) (s : Sys σ α ω ρ) (d : Dummy σ ω) (sch : Sched)
    (pl : List (Nat × Cmd α ω)) (P : Pend E s d pl) (hv : ∀ x ∈ pl, x.1 < d.envs.length) :
    ∃ ps' sch', runProg E s.procs sch (pl.map fun x => PAct.recv x.1) = some (ps', sch', (Dummy.loop E d pl).2) ∧
      ps'.map (view E) = quiet (Dummy.ws (Dummy.loop E d pl).1) := by
  apply runProg_some
  rw [P.views, arun_recvs E pl d P.len hv]

/-- **Send to all, receive from all, under any schedule = `DummyVecEnv`'s loop**, from pipes drained onto `d`. -/
theorem runProg_program (E : EnvSem σ α ω ρ) (ps : List (Proc σ α ω ρ)) (d : Dummy σ ω) (sch : Sched)
    (pl : List (Nat × Cmd α ω)) (hviews : ps.map (view E) = quiet (Dummy.ws d))
    (hlen : d.envs.length = d.resetInfos.length) (hv : ∀ x ∈ pl, x.1 < d.envs.length) :
    ∃ ps' sch', runProg E ps sch (program pl) = some (ps', sch', (Dummy.loop E d pl).2) ∧
      ps'.map (view E) = quiet (Dummy.ws (Dummy.loop E d pl).1) := by
  apply runProg_some
  rw [hviews, program, arunProg_sends, arun_recvs E pl d hlen hv]

theorem runOp_equiv (E : EnvSem σ α ω ρ) (s : Sys σ α ω ρ) (d : Dummy σ ω) (sch : Sched) (op : Op α ω)
    (R : Rel E s d) (hv : op.valid d.envs.length) :
    ∃ s' sch', Sys.runOp E s sch op = some (s', sch', (Dummy.runOpRaw E d op).2) ∧
      Rel E s' (Dummy.runOpRaw E d op).1 := by
  obtain ⟨ps', sch', hx, hviews⟩ := runProg_program E s.procs d sch (plan d.envs.length d.seeds d.options op)
    R.views R.len (plan_valid _ _ _ op hv)
  obtain ⟨h1, h2⟩ := post_equiv E s d op ps' _ _ rfl R.pend hv hviews
  refine ⟨_, sch', ?_, h2⟩
  unfold Sys.runOp
  rw [R.n, R.seeds, R.options, hx]
  simp only []
  rw [h1]

theorem Dummy.runOpRaw_length (E : EnvSem σ α ω ρ) (d : Dummy σ ω) (op : Op α ω) :
    (Dummy.runOpRaw E d op).1.envs.length = d.envs.length :=
  (congrArg List.length (Dummy.post_envs _ op)).trans
    (Dummy.loop_frame E (plan d.envs.length d.seeds d.options op) d).envs

theorem runOps_equiv (E : EnvSem σ α ω ρ) (cast : ρ → ρ) (ops : List (Op α ω)) (s : Sys σ α ω ρ) (d : Dummy σ ω)
    (sch : Sched) (R : Rel E s d) (hv : ∀ op ∈ ops, op.valid d.envs.length) :
    ∃ s' sch' outs, Sys.runOps E s sch ops = some (s', sch', outs) ∧
      (Dummy.runOps E cast d ops).2 = outs.map (Out.castRews cast) ∧
      Rel E s' (Dummy.runOps E cast d ops).1 := by
  induction ops generalizing s d sch with
  | nil => exact ⟨s, sch, [], rfl, rfl, R⟩
  | cons op rest ih =>
    obtain ⟨s1, sch1, h1, R1⟩ := runOp_equiv E s d sch op R (hv op List.mem_cons_self)
    obtain ⟨s2, sch2, outs, h2, h3, R2⟩ := ih s1 (Dummy.runOpRaw E d op).1 sch1 R1
      (fun o ho => by rw [Dummy.runOpRaw_length E d op]; exact hv o (List.mem_cons_of_mem _ ho))
    refine ⟨s2, sch2, (Dummy.runOpRaw E d op).2 :: outs, ?_, ?_, R2⟩
    · simp only [Sys.runOps, h1, h2]
    · simp only [Dummy.runOps, Dummy.runOp, List.map_cons, h3]

theorem runCmds_length (E : EnvSem σ α ω ρ) (w : W σ ω) (cs : List (Cmd α ω)) :
    (runCmds E w cs).2.length = cs.length := by
  induction cs generalizing w with
  | nil => rfl
  | cons c cs ih => simp [runCmds, ih]

theorem view_quiet (E : EnvSem σ α ω ρ) (p : Proc σ α ω ρ) (w : W σ ω) (h : view E p = (w, [])) :
    p.inbox = [] ∧ p.outbox = [] ∧ p.w = w := by
  obtain ⟨h1, h2⟩ := Prod.mk.inj h
  obtain ⟨h2, h3⟩ := List.append_eq_nil_iff.1 h2
  have hi : p.inbox = [] := List.eq_nil_of_length_eq_zero ((runCmds_length E p.w p.inbox).symm.trans (congrArg _ h3))
  rw [hi] at h1
  exact ⟨hi, h2, h1⟩

theorem views_quiet (E : EnvSem σ α ω ρ) (ps : List (Proc σ α ω ρ)) (ws : List (W σ ω))
    (hv : ps.map (view E) = quiet ws) :
    (∀ p ∈ ps, p.inbox = [] ∧ p.outbox = []) ∧ ps.map (fun p => p.w) = ws := by
  induction ps generalizing ws with
  | nil =>
    cases ws with
    | nil => exact ⟨fun _ h => (nomatch h), rfl⟩
    | cons w ws => cases hv
  | cons p ps ih =>
    cases ws with
    | nil => cases hv
    | cons w ws =>
      obtain ⟨hp, hps⟩ := List.cons.inj hv
      obtain ⟨h1, h2, h3⟩ := view_quiet E p w hp
      obtain ⟨g1, g2⟩ := ih ws hps
      exact ⟨List.forall_mem_cons.2 ⟨⟨h1, h2⟩, g1⟩, by rw [List.map_cons, h3, g2]⟩

theorem Rel.drained (E : EnvSem σ α ω ρ) {s : Sys σ α ω ρ} {d : Dummy σ ω} (R : Rel E s d) :
    (∀ p ∈ s.procs, p.inbox = [] ∧ p.outbox = []) ∧ s.procs.map (fun p => p.w) = Dummy.ws d :=
  views_quiet E _ _ R.views

theorem recvAll_eq (acts : List α) :
    (recvAll acts.length : List (PAct α ω)) = (stepPlan acts : List (Nat × Cmd α ω)).map (fun x => PAct.recv x.1) := by
  unfold recvAll stepPlan
  have h := indexedFrom_fst 0 (acts.map (Cmd.step : α → Cmd α ω))
  rw [List.length_map] at h
  rw [List.range_eq_range', ← h, List.map_map]
  rfl

theorem closePlan_valid (n : Nat) : ∀ x ∈ (closePlan n : List (Nat × Cmd α ω)), x.1 < n :=
  List.forall_mem_map.2 fun _ hi => List.mem_range.1 hi

theorem pending_length (E : EnvSem σ α ω ρ) (p : Proc σ α ω ρ) :
    (view E p).2.length = p.inbox.length + p.outbox.length := by
  unfold view
  rw [List.length_append, runCmds_length, Nat.add_comm]

theorem waiting_pending_one (E : EnvSem σ α ω ρ) (s : Sys σ α ω ρ) (d : Dummy σ ω) (acts : List α)
    (h : acts.length = d.envs.length) (P : Pend E s d (stepPlan acts)) :
    ∀ q ∈ s.procs, q.inbox.length + q.outbox.length = 1 := by
  intro q hq
  have key : asends E (quiet (Dummy.ws d)) (stepPlan acts : List (Nat × Cmd α ω)) = List.zipWith _ _ (acts.map Cmd.step) :=
    asends_indexed E _ [] _ (by rw [List.length_map, Dummy.ws_length d P.len]; exact h)
  obtain ⟨i, hi⟩ := List.getElem?_of_mem (P.views ▸ List.mem_map_of_mem (f := view E) hq)
  rw [key, List.getElem?_zipWith] at hi
  rw [← pending_length E q]
  split at hi
  · rw [← Option.some.inj hi]
    rfl
  · cases hi

/-- The objects are in step, by phase. `n` = number of sub-environments. -/
def XRel (E : EnvSem σ α ω ρ) (n : Nat) : Phase → Sub σ α ω ρ → Dum σ α ω → Prop
  | .idle, x, y => Rel E x.sys y.d ∧ x.waiting = false ∧ x.closed = false ∧ y.d.envs.length = n
  | .waiting, x, y =>
    Pend E x.sys y.d (stepPlan y.actions) ∧ x.waiting = true ∧ x.closed = false ∧ y.d.envs.length = n ∧
    y.actions.length = n
  | .closed, x, y =>
    x.closed = true ∧ x.sys.resetInfos = y.d.resetInfos ∧ ∃ ws, x.sys.procs.map (view E) = quiet ws

theorem XRel.init (E : EnvSem σ α ω ρ) (envs : List σ) :
    XRel E envs.length .idle (Sub.init envs : Sub σ α ω ρ) (Dum.init envs) :=
  ⟨Rel.init E envs, rfl, rfl, rfl⟩

theorem castRews_empty (cast : ρ → ρ) (ri : List (Info ω)) :
    Out.castRews cast ({ resetInfos := ri } : Out ω ρ) = { resetInfos := ri } := rfl

theorem Dum.run_close (E : EnvSem σ α ω ρ) (cast : ρ → ρ) (y : Dum σ α ω) :
    (Dum.run E cast y .close).2 = { resetInfos := y.d.resetInfos } ∧
      (Dum.run E cast y .close).1.d.resetInfos = y.d.resetInfos := by
  have hq := Dummy.loop_resetInfos E (closePlan y.d.envs.length) y.d (List.forall_mem_map.2 fun _ _ => id)
  exact ⟨congrArg (fun l => ({ resetInfos := l } : Out ω ρ)) hq, hq⟩

/-- `close` on an object that is not closed yet: the parent receives what the workers owe (`pl`: nothing, or the
outstanding step), tells every worker to close, and leaves the pipes drained. -/
theorem run_close (E : EnvSem σ α ω ρ) (cast : ρ → ρ) (n : Nat) (x : Sub σ α ω ρ) (y : Dum σ α ω) (sch : Sched)
    (pl : List (Nat × Cmd α ω)) (hcl : x.closed = false) (P : Pend E x.sys y.d pl) (hpl : ∀ z ∈ pl, z.1 < y.d.envs.length)
    (hrecv : (if x.waiting then recvAll x.sys.procs.length else [] : List (PAct α ω)) = pl.map fun z => PAct.recv z.1) :
    ∃ x' sch' out, Sub.run E x sch .close = some (x', sch', out) ∧
      (Dum.run E cast y .close).2 = out.castRews cast ∧ XRel E n .closed x' (Dum.run E cast y .close).1 := by
  obtain ⟨dc1, dc2⟩ := Dum.run_close E cast y
  have fr := Dummy.loop_frame E pl y.d
  obtain ⟨ps1, sch1, hx1, hv1⟩ := runProg_recvs E x.sys y.d sch pl P hpl
  obtain ⟨ps2, sch2, hx2, hv2⟩ := runProg_program E ps1 _ sch1 (closePlan x.sys.procs.length) hv1
    (fr.envs.trans (P.len.trans fr.resetInfos.symm)) (by rw [fr.envs, ← P.n]; exact closePlan_valid _)
  refine ⟨{ x with sys := { x.sys with procs := ps2 }, closed := true }, sch2, { resetInfos := x.sys.resetInfos }, ?_,
    dc1.trans (congrArg _ P.ri.symm), rfl, P.ri.trans dc2.symm, _, hv2⟩
  simp only [Sub.run, hcl, hrecv, runProg_append, hx1, hx2, Bool.false_eq_true, if_false, Option.bind_some,
    Option.map_some]

theorem run_equiv (E : EnvSem σ α ω ρ) (cast : ρ → ρ) (n : Nat) (p p' : Phase) (x : Sub σ α ω ρ) (y : Dum σ α ω)
    (sch : Sched) (c : Call α ω) (R : XRel E n p x y) (hc : Call.next n p c = some p') :
    ∃ x' sch' out, Sub.run E x sch c = some (x', sch', out) ∧
      (Dum.run E cast y c).2 = out.castRews cast ∧ XRel E n p' x' (Dum.run E cast y c).1 := by
  cases p with
  | idle =>
    obtain ⟨R0, hw, hcl, hn⟩ := R
    cases c with
    | op o =>
      obtain ⟨hv, ⟨⟩⟩ := Option.ite_none_right_eq_some.1 hc
      obtain ⟨s', sch', h1, R1⟩ := runOp_equiv E x.sys y.d sch o R0 (hn ▸ hv)
      refine ⟨{ x with sys := s' }, sch', _, by simp only [Sub.run, h1], rfl, ?_⟩
      exact ⟨R1, hw, hcl, (Dummy.runOpRaw_length E y.d o).trans hn⟩
    | stepAsync acts =>
      obtain ⟨hv, ⟨⟩⟩ := Option.ite_none_right_eq_some.1 hc
      obtain ⟨ps', sch', hx, hv'⟩ := runProg_some E x.sys.procs sch (sendsOf (stepPlan acts)) _ _
        (arunProg_sends_nil E _ _)
      refine ⟨_, _, _, by rw [Sub.run, hx], congrArg _ R0.ri.symm, ?_⟩
      exact ⟨⟨hv'.trans (congrArg (asends E · _) R0.views), R0.ri, R0.seeds, R0.options, R0.len⟩, rfl, hcl, hn, hv⟩
    | stepWait => cases hc
    | close =>
      cases hc
      exact run_close E cast n x y sch [] hcl R0.pend (fun _ h => nomatch h) (by rw [hw]; rfl)
  | waiting =>
    obtain ⟨P, hw, hcl, hn, han⟩ := R
    have hpn : x.sys.procs.length = n := P.n.trans hn
    have hpl : ∀ z ∈ (stepPlan y.actions : List (Nat × Cmd α ω)), z.1 < y.d.envs.length := by
      rw [hn, ← han]; exact indexedFrom_map_lt _ _
    have hrecv : (recvAll x.sys.procs.length : List (PAct α ω)) =
        (stepPlan y.actions : List (Nat × Cmd α ω)).map (fun z => PAct.recv z.1) := by
      rw [hpn, ← han]; exact recvAll_eq y.actions
    cases c with
    | op o => cases hc
    | stepAsync acts => cases hc
    | stepWait =>
      cases hc
      obtain ⟨ps', sch', hx, hv'⟩ := runProg_recvs E x.sys y.d sch _ P hpl
      rw [← hrecv] at hx
      have hvalid : (Op.step y.actions : Op α ω).valid y.d.envs.length := han.trans hn.symm
      obtain ⟨h1, h2⟩ := post_equiv E x.sys y.d (Op.step y.actions) ps' _ _ rfl P hvalid hv'
      refine ⟨_, sch', _, by rw [Sub.run, hx], ?_, ?_⟩
      · simp only [Dum.run, Dummy.runOp]
        rw [← h1, hpn, hn]
        rfl
      · exact ⟨h2, rfl, hcl, (Dummy.runOpRaw_length E y.d _).trans hn⟩
    | close =>
      cases hc
      exact run_close E cast n x y sch _ hcl P hpl (by rw [hw]; exact hrecv)
  | closed =>
    obtain ⟨hcl, hri, hws⟩ := R
    cases c with
    | op o => cases hc
    | stepAsync acts => cases hc
    | stepWait => cases hc
    | close =>
      cases hc
      obtain ⟨dc1, dc2⟩ := Dum.run_close E cast y
      exact ⟨x, sch, { resetInfos := x.sys.resetInfos }, by simp only [Sub.run, hcl, if_true],
        dc1.trans (congrArg (fun l => ({ resetInfos := l } : Out ω ρ)) hri.symm), hcl, hri.trans dc2.symm, hws⟩

theorem runAll_equiv (E : EnvSem σ α ω ρ) (cast : ρ → ρ) (n : Nat) (cs : List (Call α ω)) (p p' : Phase)
    (x : Sub σ α ω ρ) (y : Dum σ α ω) (sch : Sched) (R : XRel E n p x y) (h : phaseAfter n p cs = some p') :
    ∃ x' sch' outs, Sub.runAll E x sch cs = some (x', sch', outs) ∧
      (Dum.runAll E cast y cs).2 = outs.map (Out.castRews cast) ∧ XRel E n p' x' (Dum.runAll E cast y cs).1 := by
  induction cs generalizing p x y sch with
  | nil =>
    cases h
    exact ⟨x, sch, [], rfl, rfl, R⟩
  | cons c rest ih =>
    simp only [phaseAfter] at h
    cases hc : Call.next n p c with
    | none => rw [hc] at h; cases h
    | some p1 =>
      rw [hc] at h
      obtain ⟨x1, sch1, out, h1, h2, R1⟩ := run_equiv E cast n p p1 x y sch c R hc
      obtain ⟨x2, sch2, outs, g1, g2, R2⟩ := ih p1 x1 (Dum.run E cast y c).1 sch1 R1 h
      refine ⟨x2, sch2, out :: outs, ?_, ?_, R2⟩
      · simp only [Sub.runAll, h1, g1]
      · simp only [Dum.runAll, List.map_cons, h2, g2]

end SB3Verif.Subproc
