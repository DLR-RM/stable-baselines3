/-
C16 — Hindsight relabelling is sound (HerReplayBuffer).

Property theorems only (helper lemmas are in `SB3Verif/Lemmas/Her.lean`). All statements are about the
executable model `SB3Verif/Model/Her.lean`, whose definitions the driver `SB3Verif/Driver/C16.lean` runs
against the real `HerReplayBuffer`.

Vocabulary. A *column* (`Col`) is the part of the buffer that belongs to one environment; its history is
a list of `COp` (`add t` / `truncate`). `runG hTT cap ops = (c, g)`: `c` is the column after `ops`
(`ghost_erasure`: exactly `Col.run`, the function the driver executes), `g` the ghost history: entry
number `a` is the transition of the `a`-th add as stored now and the flag `last` (= it is the final
transition of its real episode: `done`, or cut by `truncate_last_trajectory`). Slot of add `a` is
`a % cap`. Everything is for every capacity `cap ≥ 1`, every `handle_timeout_termination` flag and
every operation sequence — episodes of any length, wrapping the ring or longer than it.
Where a theorem takes `hs : s < cap` beside the hypothesis that slot `s` is sampleable, `hs` is not used:
`ep_length` has `cap` entries (`pos_is_add_counter`), so a sampleable slot is below `cap` anyway.
-/
import SB3Verif.Lemmas.Her
import SB3Verif.Props.C16C04

namespace SB3Verif.C16

open SB3Verif.Her

/-- The ghost history does not influence the buffer: the first component of `runG` is `Col.run`. -/
theorem ghost_erasure (hTT : Bool) (cap : Nat) (ops : List COp) : (runG hTT cap ops).1 = Col.run hTT cap ops :=
  Lemmas.runG_fst hTT cap ops

/-- The ring size `max(buffer_size // n_envs, 1)` is positive for every configuration, so the hypothesis
`0 < cap` of the theorems below is met by every buffer the code can build. -/
theorem ring_size_pos (bufferSize nEnvs : Nat) : 0 < ringSize bufferSize nEnvs := by
  unfold ringSize; exact Nat.lt_of_lt_of_le Nat.one_pos (Nat.le_max_right _ _)

/-- Every environment's column of the whole buffer evolves as the single-column machine fed with that
environment's part of every operation (`n_envs` and capacity unchanged). -/
theorem columns_independent (cap n : Nat) (hTT : Bool) (ops : List Op) (e : Nat) (he : e < n) :
    (Her.run cap n hTT ops).cols.getD e default = Col.run hTT cap (ops.map (Op.proj e)) ∧
    (Her.run cap n hTT ops).nEnvs = n ∧ (Her.run cap n hTT ops).cap = cap :=
  Lemmas.her_run_col cap n hTT ops e he

/-- **Episode-segment invariant** (main theorem). After any operation sequence, a slot `s` with
`ep_length[s] = L > 0` lies in a *segment*: there is an add number `f` such that
* `s = (f + j) % cap` with `j < L`, `ep_start[s] = f % cap`, and the index-in-episode the code computes,
  `(s - ep_start[s]) % cap`, is `j`;
* the segment's adds `f … f+L-1` all exist and are among the last `cap` adds (`g.length ≤ f + cap`): none
  has been overwritten;
* every one of the `L` slots `(f + k) % cap` carries the same `(ep_start, ep_length)`, holds exactly the
  transition of add `f + k`, and `last` is set on the final one only — `L` consecutive adds of one
  episode, which has ended. -/
theorem episode_segments_inv (hTT : Bool) (cap : Nat) (hcap : 0 < cap) (ops : List COp) (s : Nat) (hs : s < cap)
    (hv : 0 < (runG hTT cap ops).1.epLen.getD s 0) :
    ∃ f j, j < (runG hTT cap ops).1.epLen.getD s 0 ∧ s = (f + j) % cap ∧
      (runG hTT cap ops).1.epStart.getD s 0 = f % cap ∧ (runG hTT cap ops).1.curIdx s = j ∧
      f + (runG hTT cap ops).1.epLen.getD s 0 ≤ (runG hTT cap ops).2.length ∧
      (runG hTT cap ops).2.length ≤ f + cap ∧
      ∀ k, k < (runG hTT cap ops).1.epLen.getD s 0 →
        (runG hTT cap ops).1.epLen.getD ((f + k) % cap) 0 = (runG hTT cap ops).1.epLen.getD s 0 ∧
        (runG hTT cap ops).1.epStart.getD ((f + k) % cap) 0 = f % cap ∧
        (runG hTT cap ops).1.slots.getD ((f + k) % cap) default = ((runG hTT cap ops).2.getD (f + k) default).t ∧
        (((runG hTT cap ops).2.getD (f + k) default).last = true ↔ k + 1 = (runG hTT cap ops).1.epLen.getD s 0) :=
  Lemmas.seg_full (Lemmas.inv_runG hTT cap hcap ops) s hv

/-- The write pointer is the add counter modulo the capacity, and all arrays keep their size. -/
theorem pos_is_add_counter (hTT : Bool) (cap : Nat) (hcap : 0 < cap) (ops : List COp) :
    (runG hTT cap ops).1.pos = (runG hTT cap ops).2.length % cap ∧ (runG hTT cap ops).1.cap = cap ∧
    (runG hTT cap ops).1.epStart.length = cap ∧ (runG hTT cap ops).1.epLen.length = cap ∧
    (runG hTT cap ops).1.slots.length = cap :=
  Lemmas.inv_shape (Lemmas.inv_runG hTT cap hcap ops)

/-- **Unfinished episodes are never sampleable**: a not-yet-overwritten add `a` whose episode has not ended
(no `last` flag at or after `a`) sits in a slot with `ep_length = 0`. -/
theorem unfinished_never_valid (hTT : Bool) (cap : Nat) (hcap : 0 < cap) (ops : List COp) (a : Nat)
    (ha : a < (runG hTT cap ops).2.length) (hl : (runG hTT cap ops).2.length ≤ a + cap)
    (hopen : ∀ k, a ≤ k → k < (runG hTT cap ops).2.length → ((runG hTT cap ops).2.getD k default).last = false) :
    (runG hTT cap ops).1.valid (a % cap) = false :=
  Lemmas.unfinished_core (Lemmas.inv_runG hTT cap hcap ops) a ha hl hopen

/-- **A sampleable slot holds a live add of a finished episode**: the transition in a slot with `valid s` is that
of one of the last `cap` adds (the most recent add to that slot), and that add's episode has ended inside the
history. The name states the consequence — what has been overwritten sits in no sampleable slot; the statement about
what `sample` returns is `sample_sound`. -/
theorem overwritten_never_valid (hTT : Bool) (cap : Nat) (hcap : 0 < cap) (ops : List COp) (s : Nat) (hs : s < cap)
    (hv : (runG hTT cap ops).1.valid s = true) :
    ∃ a e, a < (runG hTT cap ops).2.length ∧ (runG hTT cap ops).2.length ≤ a + cap ∧ s = a % cap ∧
      (runG hTT cap ops).1.slots.getD s default = ((runG hTT cap ops).2.getD a default).t ∧
      endsAt (runG hTT cap ops).2 a e :=
  Lemmas.valid_core (Lemmas.inv_runG hTT cap hcap ops) s hv

/-- **The relabelling goal comes from the same episode.** For a sampleable slot `s` and any
index-in-episode `idx` the strategy can produce (`goalRange`), the slot the goal is read from
(`goalSlot`) is itself sampleable and holds add `a'`, the sampled slot holds add `a`, both not
overwritten, both in the episode that ended at add `e` (so no episode boundary lies between them);
`future` ⇒ `a ≤ a'` (at or after the transition), `final` ⇒ `a' = e` (the last transition),
`episode` ⇒ any transition of the episode. -/
theorem relabel_same_episode (hTT : Bool) (cap : Nat) (hcap : 0 < cap) (ops : List COp) (strat : Strategy)
    (s idx : Nat) (hs : s < cap) (hv : (runG hTT cap ops).1.valid s = true)
    (hlo : ((runG hTT cap ops).1.goalRange strat s).1 ≤ idx) (hhi : idx < ((runG hTT cap ops).1.goalRange strat s).2) :
    ∃ a a' e, a < (runG hTT cap ops).2.length ∧ (runG hTT cap ops).2.length ≤ a + cap ∧
      a' < (runG hTT cap ops).2.length ∧ (runG hTT cap ops).2.length ≤ a' + cap ∧
      s = a % cap ∧ (runG hTT cap ops).1.goalSlot s idx = a' % cap ∧
      (runG hTT cap ops).1.slots.getD s default = ((runG hTT cap ops).2.getD a default).t ∧
      (runG hTT cap ops).1.slots.getD ((runG hTT cap ops).1.goalSlot s idx) default =
        ((runG hTT cap ops).2.getD a' default).t ∧
      (runG hTT cap ops).1.valid ((runG hTT cap ops).1.goalSlot s idx) = true ∧
      endsAt (runG hTT cap ops).2 a e ∧ endsAt (runG hTT cap ops).2 a' e ∧
      sameEpisode (runG hTT cap ops).2 a a' ∧
      (strat = .future → a ≤ a') ∧ (strat = .final → a' = e) := by
  obtain ⟨a, a', e, h⟩ := Lemmas.relabel_core (Lemmas.inv_runG hTT cap hcap ops) strat s idx hv hlo hhi
  exact ⟨a, a', e, h.lt, h.recent, h.goal_lt, h.goal_recent, h.slot, h.goal_slot, h.trans, h.goal_trans, h.goal_valid,
    h.ends, h.goal_ends, Lemmas.endsAt_sameEpisode h.ends h.goal_ends, h.future, h.final⟩

/-- The strategy's range is never empty on a sampleable slot (so `np.random.randint(low, high)` is
well defined): the current index is below the episode length. -/
theorem goal_range_nonempty (hTT : Bool) (cap : Nat) (hcap : 0 < cap) (ops : List COp) (strat : Strategy) (s : Nat)
    (hs : s < cap) (hv : (runG hTT cap ops).1.valid s = true) :
    ((runG hTT cap ops).1.goalRange strat s).1 < ((runG hTT cap ops).1.goalRange strat s).2 := by
  have hv' := Lemmas.valid_iff.mp hv
  obtain ⟨f, j, hj, -, -, hci, -⟩ := Lemmas.seg_full (Lemmas.inv_runG hTT cap hcap ops) s hv'
  cases strat with
  | final => exact Nat.sub_one_lt (Nat.ne_of_gt hv')
  | future => exact Nat.lt_of_le_of_lt (Nat.le_of_eq hci) hj
  | episode => exact hv'

/-- **A virtual transition keeps the stored transition** — observation, achieved goals, action, next
observation and the done flag (`done ∧ ¬timeout`, as for real samples) are those of the sampled slot;
only the desired goal changes, and it is the *same* new goal in the observation and the next observation:
the next achieved goal stored in the goal slot. -/
theorem relabel_keeps_transition (cr : Nat → Nat → Int) (c : Col) (s idx : Nat) :
    (c.virt cr s idx).obs = (c.real s).obs ∧ (c.virt cr s idx).ach = (c.real s).ach ∧
    (c.virt cr s idx).act = (c.real s).act ∧ (c.virt cr s idx).nobs = (c.real s).nobs ∧
    (c.virt cr s idx).nach = (c.real s).nach ∧ (c.virt cr s idx).done = (c.real s).done ∧
    (c.virt cr s idx).dg = (c.slots.getD (c.goalSlot s idx) default).nach ∧
    (c.virt cr s idx).ndg = (c.virt cr s idx).dg :=
  ⟨rfl, rfl, rfl, rfl, rfl, rfl, rfl, rfl⟩

/-- **The reward is recomputed** by the environment's `compute_reward` from the *next* achieved goal of
the sampled transition and the new goal (not from the stored reward, not from the current achieved goal). -/
theorem reward_recomputed (cr : Nat → Nat → Int) (c : Col) (s idx : Nat) :
    (c.virt cr s idx).rew = cr (c.slots.getD s default).nach (c.virt cr s idx).dg :=
  rfl

/-- A real sample keeps the stored desired goals, reward and next achieved goal (what a virtual sample replaces
or recomputes from). -/
theorem real_sample_is_stored (c : Col) (s : Nat) :
    (c.real s).dg = (c.slots.getD s default).dg ∧ (c.real s).ndg = (c.slots.getD s default).ndg ∧
    (c.real s).rew = (c.slots.getD s default).rew ∧ (c.real s).nach = (c.slots.getD s default).nach :=
  ⟨rfl, rfl, rfl, rfl⟩

/-- **Virtual share**: `nbVirtual n B` is exactly `⌊n·B/(n+1)⌋` — characterised without division — and is
smaller than a non-empty batch (at least one real transition). -/
theorem virtual_share (n B : Nat) :
    (n + 1) * nbVirtual n B ≤ n * B ∧ n * B < (n + 1) * (nbVirtual n B + 1) ∧ nbVirtual n B ≤ B ∧
    (0 < B → nbVirtual n B < B) := by
  refine ⟨Nat.mul_div_le _ _, Nat.lt_mul_div_succ _ (Nat.succ_pos n), Lemmas.nbVirtual_le n B, fun hB => ?_⟩
  unfold nbVirtual
  apply Nat.div_lt_of_lt_mul
  rw [Nat.add_mul, Nat.one_mul]; exact Nat.lt_add_of_pos_right hB

/-- **Every sampled batch is sound** (whole buffer, any number of environments). If the draws are
possible outcomes of `np.random.choice(valid_indices)` / the strategy's `np.random.randint`
(`sampleOk`), then the batch is `real ++ virt` with `|virt| = nbVirtual nGoal batch`, `|real|` the rest; every
element of `real` is a stored transition (`IsStored`: not overwritten, episode finished) of some
environment `e`, and every element of `virt` is a correct hindsight relabelling (`IsRelabelled`:
transition and goal from the same finished episode of the same environment `e`, neither overwritten,
strategy respected, goal substituted in both observations, reward = `compute_reward(next achieved, new goal)`). -/
theorem sample_sound (cr : Nat → Nat → Int) (cap n : Nat) (hTT : Bool) (ops : List Op) (hcap : 0 < cap) (hn : 0 < n)
    (strat : Strategy) (nGoal batch : Nat) (draws goals : List Nat)
    (hok : (Her.run cap n hTT ops).sampleOk strat nGoal batch draws goals = true) :
    ∃ real virt, (Her.run cap n hTT ops).sampleOut cr strat nGoal batch draws goals = real ++ virt ∧
      real.length = batch - nbVirtual nGoal batch ∧ virt.length = nbVirtual nGoal batch ∧
      (∀ x, x ∈ real → ∃ e, e < n ∧ IsStored cap (ghostOf hTT cap ops e) x) ∧
      (∀ x, x ∈ virt → ∃ e, e < n ∧ IsRelabelled cr strat cap (ghostOf hTT cap ops e) x) :=
  Lemmas.sample_core cr cap n hTT ops hcap hn strat nGoal batch draws goals hok

/-- **`truncate_last_trajectory` closes an open episode**: if the column is inside an episode
(`_current_ep_start ≠ pos`), then afterwards the last stored transition (Python index `pos - 1`) is
sampleable and the next add starts a new episode (`_current_ep_start = pos`). -/
theorem truncate_makes_last_valid (hTT : Bool) (cap : Nat) (hcap : 0 < cap) (ops : List COp)
    (hopen : (runG hTT cap ops).1.cur ≠ (runG hTT cap ops).1.pos) :
    ((runG hTT cap ops).1.truncate hTT).valid
        (((runG hTT cap ops).1.pos + (runG hTT cap ops).1.cap - 1) % (runG hTT cap ops).1.cap) = true ∧
      ((runG hTT cap ops).1.truncate hTT).cur = ((runG hTT cap ops).1.truncate hTT).pos :=
  Lemmas.truncate_last_valid hTT (Lemmas.inv_runG hTT cap hcap ops) hopen

/-- **Without truncation the open episode stays unsampleable**: as long as no episode end follows it,
the last add's slot has `ep_length = 0`. -/
theorem no_truncate_keeps_open (hTT : Bool) (cap : Nat) (hcap : 0 < cap) (ops : List COp)
    (hne : 0 < (runG hTT cap ops).2.length)
    (hopen : ((runG hTT cap ops).2.getD ((runG hTT cap ops).2.length - 1) default).last = false) :
    (runG hTT cap ops).1.valid (((runG hTT cap ops).2.length - 1) % cap) = false := by
  refine Lemmas.unfinished_core (Lemmas.inv_runG hTT cap hcap ops) _ (Nat.sub_one_lt_of_lt hne)
    (Nat.le_trans (Nat.le_of_eq (Nat.sub_add_cancel hne).symm) (Nat.add_le_add_left hcap _)) ?_
  intro k h1 h2
  rw [Nat.le_antisymm (Nat.le_sub_one_of_lt h2) h1]; exact hopen

/-- **Tail of a long episode / full laps are dropped.** Let the open episode of a column have started at
add `F` (the add before it, if any, ended an episode; no episode end since). When add number `A` ends it
(`t.done`), the episode has `T = A + 1 - F` transitions — any number, possibly many times the capacity.
Afterwards, among the episode's transitions that are still stored (`A + 1 ≤ a + cap`), exactly the last
`T % cap` are sampleable. In particular an episode whose length is a multiple of the capacity leaves
nothing sampleable (sound, merely conservative), and an episode shorter than the ring is sampleable entirely. -/
theorem long_episode_keeps_tail (hTT : Bool) (cap : Nat) (hcap : 0 < cap) (ops : List COp) (t : Trans)
    (hdone : t.done = true) :
    ∃ F, F ≤ (runG hTT cap ops).2.length ∧
      (F = 0 ∨ ((runG hTT cap ops).2.getD (F - 1) default).last = true) ∧
      (∀ a, F ≤ a → a < (runG hTT cap ops).2.length → ((runG hTT cap ops).2.getD a default).last = false) ∧
      ∀ a, F ≤ a → a ≤ (runG hTT cap ops).2.length → (runG hTT cap ops).2.length + 1 ≤ a + cap →
        (((runG hTT cap ops).1.add hTT t).valid (a % cap) = true ↔
          (runG hTT cap ops).2.length + 1 ≤ a + ((runG hTT cap ops).2.length + 1 - F) % cap) :=
  Lemmas.long_tail_core hTT t hdone (Lemmas.inv_runG hTT cap hcap ops)

/-- **An episode whose length is a multiple of the capacity is dropped**: with `F`, `A`, `T = A + 1 - F`
as in `long_episode_keeps_tail`, if `T % cap = 0` none of the episode's stored transitions is sampleable
(nothing wrong is ever returned; the episode is merely lost). -/
theorem full_lap_episode_dropped (hTT : Bool) (cap : Nat) (hcap : 0 < cap) (ops : List COp) (t : Trans)
    (hdone : t.done = true) :
    ∃ F, F ≤ (runG hTT cap ops).2.length ∧
      (F = 0 ∨ ((runG hTT cap ops).2.getD (F - 1) default).last = true) ∧
      (∀ a, F ≤ a → a < (runG hTT cap ops).2.length → ((runG hTT cap ops).2.getD a default).last = false) ∧
      (((runG hTT cap ops).2.length + 1 - F) % cap = 0 →
        ∀ a, F ≤ a → a ≤ (runG hTT cap ops).2.length → (runG hTT cap ops).2.length + 1 ≤ a + cap →
          ((runG hTT cap ops).1.add hTT t).valid (a % cap) = false) := by
  obtain ⟨F, h1, h2, h3, h4⟩ := long_episode_keeps_tail hTT cap hcap ops t hdone
  refine ⟨F, h1, h2, h3, fun h0 a ha1 ha2 ha3 => ?_⟩
  cases hv : ((runG hTT cap ops).1.add hTT t).valid (a % cap)
  · rfl
  · have := (h4 a ha1 ha2 ha3).mp hv
    rw [h0] at this; exact absurd (Nat.le_trans this ha2) (Nat.not_succ_le_self _)

/-- The state reached by one more operation is the run of the extended history (so the two theorems above, whose
`add hTT t` is `step hTT (.add t)`, speak about reachable states). -/
theorem run_snoc (hTT : Bool) (cap : Nat) (ops : List COp) (op : COp) :
    (runG hTT cap (ops ++ [op])).1 = (runG hTT cap ops).1.step hTT op := by
  simp [runG, List.foldl_append, stepG]

section EndToEnd

open SB3Verif.OffPolicy SB3Verif.Lemmas.OffPolicyHer

/-- see `C16C04.her_sample_is_env_hindsight`: for every off-policy run without `VecNormalize` (any `n_envs`,
episode scripts, `train_freq` / `learn()` split) feeding a HER buffer of any capacity, every real sample is a
sub-environment's own transition of a finished, not overwritten ENVIRONMENT episode, and every virtual sample keeps
such a transition and takes its new goal from the next achieved goal of a transition of the same environment
episode (`future`: at or after it, `final`: the last one), with reward `compute_reward(next achieved, new goal)`. -/
theorem her_after_offpolicy_collection {α : Type} [Add α] [Sub α] [Mul α] [Div α] [Neg α] [One α] [LT α]
    [DecidableLT α] (cr : Nat → Nat → Int) (T : HTagging α) (hTT : Bool) (cap : Nat)
    (cfg : Cfg α) (calls : List (Call α)) (hv : cfg.vecNormalize = false)
    (hwf : ∀ c ∈ calls, c.wf cfg = true) (hcap : 0 < cap) (hn : 0 < cfg.nEnvs) (strat : Strategy)
    (nGoal batch : Nat) (draws goals : List Nat)
    (hok : (Her.run cap cfg.nEnvs hTT (toOps T (run cfg calls).st.buffer)).sampleOk strat nGoal batch draws goals
      = true) :
    ∃ real virt,
      (Her.run cap cfg.nEnvs hTT (toOps T (run cfg calls).st.buffer)).sampleOut cr strat nGoal batch draws goals
        = real ++ virt ∧
      real.length = batch - nbVirtual nGoal batch ∧ virt.length = nbVirtual nGoal batch ∧
      (∀ x, x ∈ real → ∃ e a ee t b, e < cfg.nEnvs ∧ EnvTransAt (run cfg calls) e a t b ∧
        (run cfg calls).w.log.length ≤ a + cap ∧ EnvEndsAt (run cfg calls).w.log e a ee ∧
        x = realOf (envTrans T hTT cfg.post t b)) ∧
      (∀ x, x ∈ virt → ∃ e a a' ee t b t' b', e < cfg.nEnvs ∧
        EnvTransAt (run cfg calls) e a t b ∧ EnvTransAt (run cfg calls) e a' t' b' ∧
        (run cfg calls).w.log.length ≤ a + cap ∧ (run cfg calls).w.log.length ≤ a' + cap ∧
        EnvEndsAt (run cfg calls).w.log e a ee ∧ EnvEndsAt (run cfg calls).w.log e a' ee ∧
        (strat = .future → a ≤ a') ∧ (strat = .final → a' = ee) ∧
        x = relabelOf cr (envTrans T hTT cfg.post t b) (envTrans T hTT cfg.post t' b')) :=
  C16C04.her_sample_is_env_hindsight cr T hTT cap cfg calls hv hwf hcap hn strat nGoal batch draws goals hok

/-- see `C16C04.her_episodes_are_env_episodes`: the episode boundaries of the HER segments are the environment's
own `terminated ∨ truncated` steps. -/
theorem her_episodes_are_env_episodes {α : Type} [Add α] [Sub α] [Mul α] [Div α] [Neg α] [One α] [LT α]
    [DecidableLT α] (T : HTagging α) (hTT : Bool) (cap : Nat) (cfg : Cfg α)
    (calls : List (Call α)) (hv : cfg.vecNormalize = false) (hwf : ∀ c ∈ calls, c.wf cfg = true)
    (e a ee : Nat) (he : e < cfg.nEnvs) :
    endsAt (ghostOf hTT cap (toOps T (run cfg calls).st.buffer) e) a ee ↔ EnvEndsAt (run cfg calls).w.log e a ee :=
  C16C04.her_episodes_are_env_episodes T hTT cap cfg calls hv hwf e a ee he

end EndToEnd

/-! ### Non-vacuity: concrete histories meet the hypotheses above -/

/-- transition with tags `10·k + field`, given `done` -/
private def tr (k : Nat) (done : Bool) : Trans :=
  { obs := 10 * k, ach := 10 * k + 1, dg := 10 * k + 2, act := 10 * k + 3, nobs := 10 * k + 4, nach := 10 * k + 5,
    ndg := 10 * k + 6, rew := -(k : Int), done := done, timeout := false, info := k }

/-- capacity 3; an episode of 5 steps (longer than the ring: its last 2 steps survive), then one open step:
slots 0,1 are sampleable with `(ep_start, ep_length) = (0, 2)`, slot 2 (open episode) is not. -/
example :
    let c := (runG true 3 [.add (tr 0 false), .add (tr 1 false), .add (tr 2 false), .add (tr 3 false),
      .add (tr 4 true), .add (tr 5 false)]).1
    (c.epLen, c.epStart, c.pos, c.cur) = ([2, 2, 0], [0, 0, 2], 0, 2) := by decide

/-- an episode that wraps the ring end: capacity 4, episodes of 3 and 3 steps → second one in slots 3,0,1 -/
example :
    let c := (runG true 4 [.add (tr 0 false), .add (tr 1 false), .add (tr 2 true), .add (tr 3 false),
      .add (tr 4 false), .add (tr 5 true)]).1
    (c.epLen, c.epStart, c.valid 0, c.goalRange .future 0, c.goalSlot 0 2) = ([3, 3, 0, 3], [3, 3, 0, 3], true, (1, 3), 1) := by
  decide

/-- `truncate_makes_last_valid`'s hypothesis holds mid-episode -/
example : (runG true 3 [.add (tr 0 true), .add (tr 1 false)]).1.cur ≠ (runG true 3 [.add (tr 0 true), .add (tr 1 false)]).1.pos := by
  decide

/-- `sample_sound`'s hypothesis: two environments, capacity 3, draws of valid flat indices, `future` goals -/
example :
    (Her.run 3 2 true [.add [tr 0 false, tr 1 true], .add [tr 2 true, tr 3 false]]).sampleOk .future 4 5
      [0, 1, 2, 0, 2] [0, 0, 1, 1] = true := by decide

/-- the batch produced for those draws: one real sample followed by four relabelled ones -/
example :
    ((Her.run 3 2 true [.add [tr 0 false, tr 1 true], .add [tr 2 true, tr 3 false]]).sampleOut
      (fun a g => (a * 1000 + g : Nat)) .future 4 5 [0, 1, 2, 0, 2] [0, 0, 1, 1]).map (fun s => (s.obs, s.dg, s.ndg, s.rew))
      = [(20, 22, 26, -2), (0, 5, 5, 5005), (10, 15, 15, 15015), (20, 25, 25, 25025), (0, 25, 25, 5025)] := by decide

/-- `no_truncate_keeps_open` / `unfinished_never_valid`: the last add of an open episode -/
example : ((runG true 3 [.add (tr 0 true), .add (tr 1 false)]).2.getD 1 default).last = false := by decide

/-- a 7-step episode in a ring of 3 (two full laps + 1): only its last transition is sampleable -/
example :
    ((runG true 3 (List.replicate 6 (.add (tr 0 false)))).1.add true (tr 1 true)).epLen = [1, 0, 0] := by decide

/-- a 6-step episode in a ring of 3 (exactly two laps): nothing is sampleable -/
example :
    ((runG true 3 (List.replicate 5 (.add (tr 0 false)))).1.add true (tr 1 true)).epLen = [0, 0, 0] := by decide

end SB3Verif.C16
