/-
Lemmas on the rollout buffer model `SB3Verif/Model/Rollout.lean`: the GAE backward loop as a weighted sum,
flat indices after `swap_and_flatten`, minibatch slices.
-/
import SB3Verif.Model.Rollout
import Mathlib.Tactic.Ring
import Mathlib.Algebra.BigOperators.Group.Finset.Basic
import Mathlib.Algebra.BigOperators.Ring.Multiset

namespace SB3Verif.Lemmas

open SB3Verif.Rollout

variable {α : Type} [CommRing α]

theorem gaeCol_length (γ lam lastV lastNnt : α) (ss : List (Step α)) :
    (gaeCol γ lam lastV lastNnt ss).length = ss.length := by
  induction ss with
  | nil => rfl
  | cons s rest ih => exact congrArg Nat.succ ih

theorem gaeCol_cons (γ lam lastV lastNnt : α) (s : Step α) (rest : List (Step α)) :
    gaeCol γ lam lastV lastNnt (s :: rest) =
      (delta γ s (nextOf lastV lastNnt rest).1 (nextOf lastV lastNnt rest).2 +
        γ * lam * (nextOf lastV lastNnt rest).2 * (gaeCol γ lam lastV lastNnt rest).headD 0) ::
        gaeCol γ lam lastV lastNnt rest := rfl

theorem gaeCol_drop (γ lam lastV lastNnt : α) (ss : List (Step α)) (t : ℕ) :
    (gaeCol γ lam lastV lastNnt ss).drop t = gaeCol γ lam lastV lastNnt (ss.drop t) := by
  induction t generalizing ss with
  | zero => rfl
  | succ t ih =>
    cases ss with
    | nil => rfl
    | cons s rest => exact ih rest

theorem nntAt_cons_succ (lastV lastNnt : α) (s : Step α) (rest : List (Step α)) (j : ℕ) :
    nntAt lastV lastNnt (s :: rest) (j + 1) = nntAt lastV lastNnt rest j := rfl

theorem nvAt_cons_succ (lastV lastNnt : α) (s : Step α) (rest : List (Step α)) (j : ℕ) :
    nvAt lastV lastNnt (s :: rest) (j + 1) = nvAt lastV lastNnt rest j := rfl

theorem deltaAt_cons_succ (γ lastV lastNnt : α) (s : Step α) (rest : List (Step α)) (j : ℕ) :
    deltaAt γ lastV lastNnt (s :: rest) (j + 1) = deltaAt γ lastV lastNnt rest j := rfl

theorem deltaAt_cons_zero (γ lastV lastNnt : α) (s : Step α) (rest : List (Step α)) :
    deltaAt γ lastV lastNnt (s :: rest) 0 =
      delta γ s (nextOf lastV lastNnt rest).1 (nextOf lastV lastNnt rest).2 := rfl

theorem nntAt_cons_zero (lastV lastNnt : α) (s : Step α) (rest : List (Step α)) :
    nntAt lastV lastNnt (s :: rest) 0 = (nextOf lastV lastNnt rest).2 := rfl

/-- The TD residual of a step depends only on the step and on what follows it. -/
theorem deltaAt_append_cons (γ lastV lastNnt : α) (ss : List (Step α)) (s : Step α) (rest : List (Step α)) :
    deltaAt γ lastV lastNnt (ss ++ s :: rest) ss.length =
      delta γ s (nextOf lastV lastNnt rest).1 (nextOf lastV lastNnt rest).2 := by
  induction ss with
  | nil => rfl
  | cons a ss ih => exact ih

/-- One step of the backward recursion on a weighted sum: `Σ_{l ≤ n} q^l (Π_{j<l} w j) d l` is
`d 0 + q · w 0 ·` the same sum for the shifted sequences. -/
theorem sum_pow_prod_succ (q : α) (w d : ℕ → α) (n : ℕ) :
    ∑ l ∈ Finset.range (n + 1), q ^ l * (∏ j ∈ Finset.range l, w j) * d l =
      d 0 + q * w 0 * ∑ l ∈ Finset.range n, q ^ l * (∏ j ∈ Finset.range l, w (j + 1)) * d (l + 1) := by
  rw [Finset.sum_range_succ', add_comm, Finset.prod_range_zero, pow_zero, one_mul, one_mul]
  -- `Finset.mul_sum` (and `Finset.prod_eq_zero` below) would need modules that import `Data.Set.Lattice`, which slows
  -- every order-class search in the files that import this one; a `∑` over a `Finset` unfolds to the `Multiset` sum
  refine congrArg _ ((Finset.sum_congr rfl fun l _ => ?_).trans Multiset.sum_map_mul_left)
  rw [Finset.prod_range_succ', pow_succ]
  ring

/-- A zero weight at `m` after weights `1` cuts the weighted sum after the term `m` and leaves plain powers. -/
theorem sum_pow_prod_cut (q : α) (w d : ℕ → α) (m n : ℕ) (hmn : m < n) (h1 : ∀ j, j < m → w j = 1)
    (h0 : w m = 0) :
    ∑ l ∈ Finset.range n, q ^ l * (∏ j ∈ Finset.range l, w j) * d l = ∑ l ∈ Finset.range (m + 1), q ^ l * d l := by
  rw [← Finset.sum_subset (Finset.range_subset_range.2 hmn)]
  · refine Finset.sum_congr rfl fun l hl => ?_
    have hl := Nat.le_of_lt_succ (Finset.mem_range.1 hl)
    rw [Finset.prod_eq_one fun j hj => h1 j (Nat.lt_of_lt_of_le (Finset.mem_range.1 hj) hl), mul_one]
  · intro l _ hl
    have hl : m < l := Nat.lt_of_not_le fun h => hl (Finset.mem_range.2 (Nat.lt_succ_of_le h))
    rw [← Finset.mul_prod_erase _ _ (Finset.mem_range.2 hl), h0, zero_mul, mul_zero, zero_mul]

theorem gaeCol_head_closed (γ lam lastV lastNnt : α) (ss : List (Step α)) :
    (gaeCol γ lam lastV lastNnt ss).headD 0 =
      ∑ l ∈ Finset.range ss.length,
        (γ * lam) ^ l * (∏ j ∈ Finset.range l, nntAt lastV lastNnt ss j) * deltaAt γ lastV lastNnt ss l := by
  induction ss with
  | nil => rfl
  | cons s rest ih =>
    rw [gaeCol_cons, List.headD_cons, ih, List.length_cons, sum_pow_prod_succ]
    -- `nntAt`, `deltaAt` of `s :: rest` at `0` and at `j + 1`: the `…_cons_zero`, `…_cons_succ` equations above
    rfl

theorem nntAt_drop (lastV lastNnt : α) (ss : List (Step α)) (t j : ℕ) :
    nntAt lastV lastNnt (ss.drop t) j = nntAt lastV lastNnt ss (t + j) := by
  unfold nntAt; rw [List.drop_drop, Nat.add_assoc]

theorem nvAt_drop (lastV lastNnt : α) (ss : List (Step α)) (t j : ℕ) :
    nvAt lastV lastNnt (ss.drop t) j = nvAt lastV lastNnt ss (t + j) := by
  unfold nvAt; rw [List.drop_drop, Nat.add_assoc]

theorem deltaAt_drop (γ lastV lastNnt : α) (ss : List (Step α)) (t j : ℕ) :
    deltaAt γ lastV lastNnt (ss.drop t) j = deltaAt γ lastV lastNnt ss (t + j) := by
  unfold deltaAt; rw [List.getElem?_drop, nntAt_drop, nvAt_drop]

/-- Closed form of every entry: entry `t` is the head of the column computed on `ss.drop t`. -/
theorem gaeCol_getD_closed (γ lam lastV lastNnt : α) (ss : List (Step α)) (t : ℕ) :
    (gaeCol γ lam lastV lastNnt ss).getD t 0 =
      ∑ l ∈ Finset.range (ss.length - t),
        (γ * lam) ^ l * (∏ j ∈ Finset.range l, nntAt lastV lastNnt ss (t + j)) *
          deltaAt γ lastV lastNnt ss (t + l) := by
  rw [List.getD_eq_getElem?_getD, ← List.head?_drop, ← List.headD_eq_head?_getD, gaeCol_drop, gaeCol_head_closed,
    List.length_drop]
  simp only [nntAt_drop, deltaAt_drop]

theorem column_length {β : Type} [Inhabited β] (rows : List (List β)) (e : ℕ) :
    (column rows e).length = rows.length := List.length_map _

theorem column_getD {β : Type} [Inhabited β] (rows : List (List β)) (e t : ℕ) :
    (column rows e).getD t default = (rows.getD t default).getD e default := by
  rw [column, List.getD_eq_getElem?_getD, List.getElem?_map, List.getD_eq_getElem?_getD (l := rows)]
  cases rows[t]? <;> rfl

/-- In a concatenation of rows of equal length `T`, entry `t` of row `e` sits at index `e * T + t`. -/
theorem flatten_const_getD {β : Type} [Inhabited β] (T : ℕ) (cols : List (List β))
    (h : ∀ c ∈ cols, c.length = T) (e t : ℕ) (ht : t < T) :
    cols.flatten.getD (e * T + t) default = (cols.getD e default).getD t default := by
  induction cols generalizing e with
  | nil => rfl
  | cons c cs ih =>
    have hc : c.length = T := h c List.mem_cons_self
    rw [List.flatten_cons, List.getD_eq_getElem?_getD]
    cases e with
    | zero => rw [Nat.zero_mul, Nat.zero_add, List.getElem?_append_left (hc ▸ ht)]; rfl
    | succ e =>
      have hi : (e + 1) * T + t = c.length + (e * T + t) := by
        rw [hc, Nat.succ_mul, Nat.add_right_comm, Nat.add_comm]
      rw [hi, List.getElem?_append_right (Nat.le_add_right _ _), Nat.add_sub_cancel_left]
      exact ih (fun c' hc' => h c' (List.mem_cons_of_mem _ hc')) e

theorem transposeN_getD {β : Type} [Inhabited β] (n : ℕ) (rows : List (List β)) (e : ℕ) (he : e < n) :
    (transposeN n rows).getD e default = column rows e := by
  rw [transposeN, List.getD_eq_getElem?_getD, List.getElem?_map, List.getElem?_range he]; rfl

theorem swapFlatten_getD {β : Type} [Inhabited β] (n : ℕ) (rows : List (List β)) (t e : ℕ)
    (ht : t < rows.length) (he : e < n) :
    (swapFlatten n rows).getD (e * rows.length + t) default = (rows.getD t default).getD e default := by
  have hcols : ∀ c ∈ transposeN n rows, c.length = rows.length := by
    intro c hc
    obtain ⟨a, _, rfl⟩ := List.mem_map.mp hc
    exact column_length rows a
  rw [swapFlatten, flatten_const_getD rows.length _ hcols e t ht, transposeN_getD n rows e he, column_getD]

theorem unflat_flat (T t e : ℕ) (ht : t < T) : unflat T (e * T + t) = (t, e) := by
  unfold unflat
  rw [Nat.add_comm, Nat.add_mul_mod_self_right, Nat.mod_eq_of_lt ht,
    Nat.add_mul_div_right _ _ (Nat.zero_lt_of_lt ht), Nat.div_eq_of_lt ht, Nat.zero_add]

theorem chunksAux_nil {β : Type} (b fuel : ℕ) : chunksAux b fuel ([] : List β) = [] := by
  cases fuel <;> rfl

theorem chunksAux_cons {β : Type} (b fuel : ℕ) (x : β) (xs : List β) :
    chunksAux b (fuel + 1) (x :: xs) = (x :: xs).take b :: chunksAux b fuel ((x :: xs).drop b) := rfl

theorem chunksAux_flatten {β : Type} (b : ℕ) (hb : 0 < b) (fuel : ℕ) (l : List β) (h : l.length ≤ fuel) :
    (chunksAux b fuel l).flatten = l := by
  induction fuel generalizing l with
  | zero => rw [List.length_eq_zero_iff.mp (Nat.le_zero.mp h)]; rfl
  | succ fuel ih =>
    cases l with
    | nil => rfl
    | cons x xs =>
      have hd : ((x :: xs).drop b).length ≤ fuel := by
        rw [List.length_drop]; exact Nat.sub_le_of_le_add (Nat.le_trans h (Nat.add_le_add_left hb fuel))
      rw [chunksAux_cons, List.flatten_cons, ih _ hd, List.take_append_drop]

theorem chunks_flatten {β : Type} (b : ℕ) (hb : 0 < b) (l : List β) : (chunks b l).flatten = l :=
  chunksAux_flatten b hb l.length l (Nat.le_refl _)

theorem chunksAux_sizes {β : Type} (b : ℕ) (hb : 0 < b) (fuel : ℕ) (l : List β) :
    ∀ c ∈ chunksAux b fuel l, 0 < c.length ∧ c.length ≤ b := by
  induction fuel generalizing l with
  | zero => intro c hc; cases hc
  | succ fuel ih =>
    cases l with
    | nil => intro c hc; cases hc
    | cons x xs =>
      rw [chunksAux_cons, List.forall_mem_cons, List.length_take]
      exact ⟨⟨Nat.lt_min.mpr ⟨hb, Nat.succ_pos _⟩, Nat.min_le_left _ _⟩, ih _⟩

theorem range_map_unflat (T n : ℕ) :
    (List.range (T * n)).map (unflat T) = (List.range n).flatMap fun e => (List.range T).map fun t => (t, e) := by
  induction n with
  | zero => rfl
  | succ n ih =>
    rw [Nat.mul_succ, List.range_add, List.map_append, ih, List.range_succ, List.flatMap_append,
      List.flatMap_singleton, List.map_map]
    refine congrArg _ (List.map_congr_left fun t ht => ?_)
    rw [Function.comp, Nat.mul_comm]
    exact unflat_flat T t n (List.mem_range.mp ht)

theorem getBatches_flatten (T n : ℕ) (perm : List ℕ) (batch : Option ℕ) (hb : 0 < batch.getD (T * n)) :
    (getBatches T n perm batch).flatten = perm.map (unflat T) := by
  unfold getBatches
  rw [← List.map_flatten, chunks_flatten _ hb]

theorem getBatches_perm (T n : ℕ) (perm : List ℕ) (batch : Option ℕ)
    (hperm : perm.Perm (List.range (T * n))) (hb : ∀ b, batch = some b → 0 < b) (hTn : 0 < T * n) :
    ((getBatches T n perm batch).flatten).Perm
      ((List.range n).flatMap fun e => (List.range T).map fun t => (t, e)) := by
  have hb' : 0 < batch.getD (T * n) := by
    cases batch with
    | none => exact hTn
    | some b => exact hb b rfl
  rw [getBatches_flatten T n perm batch hb', ← range_map_unflat]
  exact hperm.map _

end SB3Verif.Lemmas
