/-
C13 — Callback event protocol.

"During learn() a callback sees training-start once, then for each rollout a rollout-start, one step
event per vectorised environment step (with its timestep counter and locals describing that very
step) and a rollout-end, then training-end once; a step event returning False stops training before
any further environment step. Callback lists, event/every-N, evaluation and checkpoint callbacks
forward events to their children and fire at exactly their documented cadence."

All statements are about the executable model `SB3Verif/Model/Callback.lean`, whose definitions the
driver `SB3Verif/Driver/C13.lean` runs against the real `learn()` loops and callback classes.
-/
import SB3Verif.Lemmas.Callback

namespace SB3Verif.C13

open SB3Verif.Callback

/-- **Protocol of one `learn()`** — for every loop configuration (on- or off-policy, `n_envs`, rollouts
counted in steps or in episodes, any episode-end pattern), every callback whatsoever (any state
type, any answers — hence any stop pattern), every budget, with or without counter reset, and every
number `n` of control-flow steps executed so far (so: for every reachable state, also the unfinished
ones), the calls made on the root callback are accepted by the protocol monitor `P`:
`trainingStart (rolloutStart (updateLocals step)* updateLocals? rolloutEnd)* trainingEnd`, each `step`
directly preceded by the `update_locals` of a *new* environment step and carrying the counter
`previous + n_envs`, nothing but `trainingEnd` after a `step` that answered `False`. The monitor's
counters are the loop's (`num_timesteps`, environment steps), and a finished `learn` ends in the final
state. -/
theorem protocol_accepted {σ : Type} (cfg : Cfg) (h : σ → Call → σ × Bool) (prevNum g0 : Nat) (cb : σ)
    (totalArg : Nat) (reset : Bool) (n : Nat) :
    let s := LS.runN cfg h n (LS.setup prevNum g0 cb totalArg reset)
    let p := P.run cfg.nEnvs g0 s.trace
    p.st ≠ .reject ∧ p.g = s.g ∧ (s.pc ≠ .start → p.num = s.num) ∧ (s.pc = .done → p.st = .final) :=
  (Lemmas.inv_reachable cfg h prevNum g0 cb totalArg reset n).mon.accepted

/-- **One step event per vectorised environment step, with its counter**: in every reachable state
the `step` calls made so far carry exactly `start + n_envs, start + 2·n_envs, …`, one per
environment step made in this call (`s.g - g0` of them), and the model's counter is
`start + n_envs · steps`; `start` is `0` after a reset and the previous counter otherwise. -/
theorem one_step_event_per_env_step {σ : Type} (cfg : Cfg) (h : σ → Call → σ × Bool) (prevNum g0 : Nat) (cb : σ)
    (totalArg : Nat) (reset : Bool) (n : Nat) :
    let s := LS.runN cfg h n (LS.setup prevNum g0 cb totalArg reset)
    let start := if reset then 0 else prevNum
    stepNums s.trace = arith (start + cfg.nEnvs) cfg.nEnvs (s.g - g0) ∧
      s.num = start + cfg.nEnvs * (s.g - g0) ∧ g0 ≤ s.g := by
  have hi := Lemmas.inv_reachable cfg h prevNum g0 cb totalArg reset n
  exact ⟨hi.steps, hi.lin, hi.ge⟩

/-- **A step event answering `False` stops training before any further environment step**: from any
state inside a rollout, if the callback answers `False` to the step event of the next environment
step, then after that transition the loop makes exactly one more call — `trainingEnd` — and the
environment is never stepped again, however long the machine keeps running. -/
theorem stop_is_immediate {σ : Type} (cfg : Cfg) (h : σ → Call → σ × Bool) (s : LS σ) (collected episodes : Nat)
    (hpc : s.pc = .inRollout collected episodes) (hmore : cfg.kind.more collected episodes = true)
    (hfalse : (h (h s.cb (.updateLocals (s.g + 1))).1 (.step (s.num + cfg.nEnvs))).2 = false) (m : Nat) :
    let s1 := s.next cfg h
    let s2 := LS.runN cfg h (m + 1) s1
    s1.pc = .finish ∧ s1.g = s.g + 1 ∧
      s1.trace = s.trace ++ [(.updateLocals (s.g + 1), (h s.cb (.updateLocals (s.g + 1))).2),
                              (.step (s.num + cfg.nEnvs), false)] ∧
      s2.pc = .done ∧ s2.g = s.g + 1 ∧ s2.num = s.num + cfg.nEnvs ∧
      s2.trace = s1.trace ++ [(.trainingEnd, (h s1.cb .trainingEnd).2)] := by
  have e1 := Lemmas.next_step (h := h) hpc hmore
  simp only [hfalse, cond_false] at e1
  have e2 := Lemmas.next_finish (cfg := cfg) (h := h) (congrArg LS.pc e1)
  have e3 : LS.runN cfg h (m + 1) (s.next cfg h) = _ :=
    (Lemmas.runN_done cfg h _ m (congrArg LS.pc e2)).trans e2
  rw [e1] at e3
  simp only [e3, e1, Lemmas.invoke_g, Lemmas.invoke_num, Lemmas.invoke_trace, and_self]

/-- **Training end is reached, once** (rollouts counted in steps — on-policy `n_steps = k`, off-policy
`train_freq = (k, "step")`; `k ≥ 1`, `n_envs ≥ 1`): whatever the callback answers, `learn(total)` finishes
within `3 + (k + 3) · total` control-flow steps, and then the protocol monitor is in its final state, i.e.
the trace ends with the one and only `trainingEnd`. (With episode-counted rollouts termination depends on
the environment ending episodes; the protocol theorems above do not need it.) -/
theorem learn_terminates {σ : Type} (cfg : Cfg) (h : σ → Call → σ × Bool) (k : Nat) (hk : 0 < k)
    (hd : 0 < cfg.nEnvs) (hkind : cfg.kind = .steps k) (prevNum g0 : Nat) (cb : σ) (totalArg : Nat) (reset : Bool) :
    let s := LS.runN cfg h (3 + (k + 3) * totalArg) (LS.setup prevNum g0 cb totalArg reset)
    s.pc = .done ∧ (P.run cfg.nEnvs g0 s.trace).st = .final := by
  have h1 := Lemmas.runN_terminates cfg h k hk hd hkind (3 + (k + 3) * totalArg)
    (LS.setup prevNum g0 cb totalArg reset) (by
      -- at `start` the potential is `(k + 3) * (total - num) + 3`, and `_setup_learn` leaves `total - num = totalArg`
      cases reset
      · show (k + 3) * (totalArg + prevNum - prevNum) + 3 ≤ _
        rw [Nat.add_sub_cancel, Nat.add_comm]; exact Nat.le_refl _
      · exact Nat.le_of_eq (Nat.add_comm ..))
  obtain ⟨-, -, -, hfinal⟩ := protocol_accepted cfg h prevNum g0 cb totalArg reset (3 + (k + 3) * totalArg)
  exact ⟨h1, hfinal h1⟩

/-- **CallbackList forwards everything, to every child, whatever the siblings answer**: a user
callback sitting anywhere below nested `CallbackList`s (path `p` through lists only, any sibling
sub-trees — event callbacks, evaluations, callbacks that answer `False` —, identifiers distinct)
records, for *every* sequence of entry-point calls, exactly what it would record if it were the root
callback itself: same events, same `n_calls`, `num_timesteps`, `locals`, in the same order. -/
theorem list_forwards_all (dones : Dones) (t : Cb) (x : Ext) (p : List Nat) (id : Nat) (st : List Nat)
    (nc nt loc : Nat) (cs : List Call) (hids : t.ids.Nodup) (hp : subAt p t = some (.leaf id st nc nt loc)) :
    proj id (Cb.events dones t x cs) = Cb.events dones (.leaf id st nc nt loc) x cs := by
  rw [Lemmas.events_eq_evsOf, Lemmas.events_eq_evsOf]
  exact Lemmas.evsOf_under_lists dones id st cs p t x nc nt loc hids hp

/-- **Top-level grammar**: in a whole `learn()` (any algorithm machine, configuration, budget, reset
flag, fuel), with any callback tree, a user callback reached through lists only records exactly the
events of a root callback fed with the calls of the loop's trace — and that trace obeys the protocol
(`protocol_accepted`, `one_step_event_per_env_step`). -/
theorem top_level_grammar (cfg : Cfg) (fuel prevNum g0 : Nat) (r : Run) (totalArg : Nat) (reset : Bool)
    (p : List Nat) (id : Nat) (st : List Nat) (nc nt loc : Nat)
    (hids : r.cb.ids.Nodup) (hp : subAt p r.cb = some (.leaf id st nc nt loc)) :
    let s := learn cfg fuel prevNum g0 r totalArg reset
    proj id s.cb.evs = Cb.events cfg.dones (.leaf id st nc nt loc) r.ext (s.trace.map (·.1)) ∧
      (P.run cfg.nEnvs g0 s.trace).st ≠ .reject := by
  refine ⟨?_, ?_⟩
  · rw [Lemmas.learn_evs, Lemmas.events_eq_evsOf]
    exact Lemmas.evsOf_under_lists cfg.dones id st _ p r.cb r.ext nc nt loc hids hp
  · exact (protocol_accepted cfg (treeHandler cfg.dones) prevNum g0 { r with evs := [] } totalArg reset fuel).1

/-- **The answer of `on_step` is the AND of all answers given below** (no short-circuit in lists,
event callbacks hand their child's answer up, the evaluation callback hands up new-best ∧ after-eval):
for every tree, `on_step` answers `False` iff some callback that was reached in this very call
answered `False`. In particular a `False` from any depth reaches the training loop. -/
theorem stop_from_any_depth (dones : Dones) (t : Cb) (x : Ext) (num : Nat) :
    (t.call dones (.step num) x).ok = (t.call dones (.step num) x).evs.all (·.ret) :=
  Lemmas.step_ok dones num t x

/-- **A `False` from any node at any depth ends the `learn()`**: composition of the two facts above for a
callback tree driven by the loop machine. If, at the step event of the next environment step, *any*
callback reached in the tree (a leaf below lists, the child of an `EveryNTimesteps` at its trigger, an
on-new-best or after-eval child, a `StopTrainingOnMaxEpisodes`) answers `False`, then the loop goes
straight to training end: exactly one more call is made and the environment is never stepped again. -/
theorem false_anywhere_stops_learn (cfg : Cfg) (s : LS Run) (collected episodes : Nat)
    (hpc : s.pc = .inRollout collected episodes) (hmore : cfg.kind.more collected episodes = true)
    (e : Event)
    (he : e ∈ ((s.cb.feed cfg.dones (.updateLocals (s.g + 1))).1.cb.call cfg.dones (.step (s.num + cfg.nEnvs))
      (s.cb.feed cfg.dones (.updateLocals (s.g + 1))).1.ext).evs)
    (hret : e.ret = false) (m : Nat) :
    let s1 := s.next cfg (treeHandler cfg.dones)
    let s2 := LS.runN cfg (treeHandler cfg.dones) (m + 1) s1
    s1.pc = .finish ∧ s2.pc = .done ∧ s2.g = s.g + 1 ∧
      s2.trace = s1.trace ++ [(.trainingEnd, (treeHandler cfg.dones s1.cb .trainingEnd).2)] := by
  have hfalse : (treeHandler cfg.dones (treeHandler cfg.dones s.cb (.updateLocals (s.g + 1))).1
      (.step (s.num + cfg.nEnvs))).2 = false :=
    (Lemmas.step_ok cfg.dones _ _ _).trans (List.all_eq_false.2 ⟨e, he, Bool.eq_false_iff.1 hret⟩)
  obtain ⟨hfinish, -, -, hdone, hg, -, htrace⟩ :=
    stop_is_immediate cfg (treeHandler cfg.dones) s collected episodes hpc hmore hfalse m
  exact ⟨hfinish, hdone, hg, htrace⟩

/-- **Siblings later in the list still see the step in which an earlier one asked to stop**:
`CallbackList.on_step` calls every child and ANDs. -/
theorem list_no_short_circuit (dones : Dones) (id nc nt : Nat) (t : Cb) (ts : List Cb) (x : Ext) (num : Nat) :
    ((Cb.list id nc nt (t :: ts)).call dones (.step num) x).evs =
      (t.call dones (.step num) x).evs ++
        (Cb.callL dones (.step num) ts (t.call dones (.step num) x).ext).evs ∧
    ((Cb.list id nc nt (t :: ts)).call dones (.step num) x).ok =
      ((t.call dones (.step num) x).ok && (Cb.callL dones (.step num) ts (t.call dones (.step num) x).ext).ok) :=
  ⟨rfl, rfl⟩

/-- **Event callbacks: the child sees the trigger only.** `EveryNTimesteps` forwards training-start,
never rollout-start / rollout-end / training-end, and calls its child's `on_step` exactly
when `num_timesteps - last_time_trigger ≥ n_steps`, handing the child's answer up (`x.setP none`: the child's
`parent` is this callback, which has no `best_mean_reward`). -/
theorem event_child_sees_trigger_only (dones : Dones) (id n last nc nt : Nat) (ch : Cb) (x : Ext) (num : Nat) :
    ((Cb.everyN id n last nc nt ch).call dones .rolloutStart x).evs = [] ∧
    ((Cb.everyN id n last nc nt ch).call dones .rolloutEnd x).evs = [] ∧
    ((Cb.everyN id n last nc nt ch).call dones .trainingEnd x).evs = [] ∧
    ((Cb.everyN id n last nc nt ch).call dones (.trainingStart num) x).evs = (ch.call dones (.trainingStart num) x).evs ∧
    ((Cb.everyN id n last nc nt ch).call dones (.step num) x).evs =
      (if last + n ≤ num then (ch.call dones (.step num) (x.setP none)).evs else []) ∧
    ((Cb.everyN id n last nc nt ch).call dones (.step num) x).ok =
      (if last + n ≤ num then (ch.call dones (.step num) (x.setP none)).ok else true) := by
  refine ⟨rfl, rfl, rfl, rfl, ?_⟩
  rw [Lemmas.everyN_step]
  cases hd : everyNDue n last num
  · rw [if_neg (of_decide_eq_false hd), if_neg (of_decide_eq_false hd)]; exact ⟨rfl, rfl⟩
  · rw [if_pos (of_decide_eq_true hd), if_pos (of_decide_eq_true hd)]; exact ⟨rfl, rfl⟩

/-- **Checkpoint cadence**: over any sequence of calls (any number of `learn`s, resets, rollouts), a
`CheckpointCallback(save_freq = f)` saves exactly at its `i`-th `on_step` for the `i` that `f`
divides — `i` = `n_calls`, which keeps counting across `learn` calls — and names the file by the
`num_timesteps` of that very step. -/
theorem checkpoint_cadence (dones : Dones) (id f nc nt : Nat) (x : Ext) (cs : List Call) :
    Cb.events dones (.checkpoint id f nc nt) x cs = everyKthCall id .save f nc (callNums cs) := by
  rw [Lemmas.events_eq_evsOf]
  induction cs generalizing nc nt x with
  | nil => rfl
  | cons c cs ih =>
    cases c
    case step num => exact (congrArg (_ ++ ·) (ih (nc + 1) num x)).trans (Lemmas.everyKthCall_cons ..).symm
    all_goals exact ih nc _ x

/-- **How many checkpoints a history contains**: over any sequence of calls, a `CheckpointCallback(save_freq = f)` whose call
counter stood at `n_calls₀` saves `⌊(n_calls₀ + K)/f⌋ − ⌊n_calls₀/f⌋` times, `K` the number of `on_step` calls it received —
whatever `learn()` calls, resets and rollouts the history is cut into. -/
theorem checkpoint_count (dones : Dones) (id f nc nt : Nat) (x : Ext) (cs : List Call) :
    (Cb.events dones (.checkpoint id f nc nt) x cs).length = (nc + (callNums cs).length) / f - nc / f := by
  rw [checkpoint_cadence]; exact Lemmas.everyKthCall_length id .save f nc (callNums cs)

/-- **Evaluation cadence**: an `EvalCallback(eval_freq = f)` with any children evaluates exactly at its
`i`-th `on_step` with `f ∣ i` (`f = 0`: never), whatever its children do or answer. -/
theorem eval_cadence (dones : Dones) (id f nc nt : Nat) (best : Option Rat) (onBest after : Cb) (x : Ext)
    (cs : List Call) (h1 : id ∉ onBest.ids) (h2 : id ∉ after.ids) :
    eventsOfKind id .evalRun (Cb.events dones (.eval id f nc nt best onBest after) x cs) =
      everyKthCall id .evalRun f nc (callNums cs) := by
  rw [Lemmas.events_eq_evsOf]
  induction cs generalizing nc nt best onBest after x with
  | nil => rfl
  | cons c cs ih =>
    obtain ⟨nt', best', a', b', e1, e2, e3, e4⟩ := Lemmas.eval_call dones c id f nc nt best onBest after x h1 h2
    rw [Cb.evsOf, Lemmas.eventsOfKind_append, e4, e1, ih _ _ _ _ _ _ (e2 ▸ h1) (e3 ▸ h2)]
    cases c
    case step num => rw [Lemmas.evalDue_succ]; exact (Lemmas.everyKthCall_cons ..).symm
    all_goals rfl

/-- **How many evaluations a history contains**: `⌊(n_calls₀ + K)/f⌋ − ⌊n_calls₀/f⌋`, whatever the children do or answer. -/
theorem eval_count (dones : Dones) (id f nc nt : Nat) (best : Option Rat) (onBest after : Cb) (x : Ext)
    (cs : List Call) (h1 : id ∉ onBest.ids) (h2 : id ∉ after.ids) :
    (eventsOfKind id .evalRun (Cb.events dones (.eval id f nc nt best onBest after) x cs)).length =
      (nc + (callNums cs).length) / f - nc / f := by
  rw [eval_cadence dones id f nc nt best onBest after x cs h1 h2]
  exact Lemmas.everyKthCall_length id .evalRun f nc (callNums cs)

/-- **`eval_freq = 0` never evaluates**: the cadence specification with period `0` (the right-hand side of
`eval_cadence` for `f = 0`) is empty. -/
theorem eval_freq_zero_never (id nc : Nat) (nums : List Nat) : everyKthCall id .evalRun 0 nc nums = [] := by
  simp only [everyKthCall, List.map_eq_nil_iff, List.filter_eq_nil_iff]
  intro p hp
  -- `i % 0 = i`, and the calls are numbered from `nc + 1 ≥ 1`
  rw [Nat.mod_zero, beq_iff_eq]
  exact Nat.ne_of_gt (Nat.lt_of_lt_of_le (Nat.succ_pos nc) (List.le_snd_of_mem_zipIdx hp))

/-- **Children of the evaluation callback**: at an evaluation with mean reward `m`, the on-new-best
child is stepped iff `m` beats the best so far (then `best := m`), *before* the after-eval child; the
after-eval child is stepped iff the on-new-best child did not answer `False`; the answer is the AND. Both
children are stepped *after* `best_mean_reward` was updated (`setP`: what `self.parent.best_mean_reward` reads). -/
theorem eval_children (dones : Dones) (id f nc nt : Nat) (best : Option Rat) (onBest after : Cb) (x : Ext) (num : Nat)
    (hdue : evalDue f (nc + 1) = true) :
    let m := x.pop.1
    let r := (Cb.eval id f nc nt best onBest after).call dones (.step num) x
    let rb := onBest.call dones (.step num) (x.pop.2.setP (some (some m)))
    (isNewBest best m = true → rb.ok = true →
      r.evs = ⟨id, .evalRun, nc + 1, num, 0, true⟩ :: (rb.evs ++ (after.call dones (.step num) rb.ext).evs) ∧
      r.ok = (after.call dones (.step num) rb.ext).ok) ∧
    (isNewBest best m = true → rb.ok = false →
      r.evs = ⟨id, .evalRun, nc + 1, num, 0, true⟩ :: rb.evs ∧ r.ok = false) ∧
    (isNewBest best m = false →
      r.evs = ⟨id, .evalRun, nc + 1, num, 0, true⟩ :: (after.call dones (.step num) (x.pop.2.setP (some best))).evs ∧
      r.ok = (after.call dones (.step num) (x.pop.2.setP (some best))).ok) ∧
    r.cb.bests.head? = some (id, if isNewBest best m then some m else best) := by
  dsimp only
  rw [Lemmas.eval_step hdue]
  cases isNewBest best x.pop.1
  · exact ⟨nofun, nofun, fun _ => ⟨rfl, rfl⟩, rfl⟩
  dsimp only [Lemmas.callIf, cond_true]
  cases (onBest.call dones (.step num) (x.pop.2.setP (some (some x.pop.1)))).ok
  · exact ⟨nofun, fun _ _ => ⟨congrArg _ (List.append_nil _), rfl⟩, nofun, rfl⟩
  · exact ⟨fun _ _ => ⟨rfl, rfl⟩, nofun, nofun, rfl⟩

/-- **The evaluation callback forwards training-start and locals to both children** (after-eval child
first, then the on-new-best child), and — being an event callback — forwards neither rollout
start/end nor training end. (Full statement since the fix `4379697`; before it the on-new-best child
received neither event, finding K-C13-b.) -/
theorem eval_forwards (dones : Dones) (id f nc nt : Nat) (best : Option Rat) (onBest after : Cb) (x : Ext)
    (c : Call) (hc : (∃ n, c = .trainingStart n) ∨ (∃ g, c = .updateLocals g)) :
    ((Cb.eval id f nc nt best onBest after).call dones c x).evs =
        (after.call dones c x).evs ++ (onBest.call dones c (after.call dones c x).ext).evs ∧
    ((Cb.eval id f nc nt best onBest after).call dones .rolloutStart x).evs = [] ∧
    ((Cb.eval id f nc nt best onBest after).call dones .rolloutEnd x).evs = [] ∧
    ((Cb.eval id f nc nt best onBest after).call dones .trainingEnd x).evs = [] := by
  rcases hc with ⟨n, rfl⟩ | ⟨g, rfl⟩ <;> exact ⟨rfl, rfl, rfl, rfl⟩

/-- **EveryNTimesteps cadence in one `learn()`**, for every period `n ≥ 1`, every `n_envs = d`, every
number of steps `k`, every earlier history (`last` = whatever `last_time_trigger` an earlier `learn`
left behind) and every start counter `num0` for which the trigger is not already overdue
(`num0 < min last num0 + n` — true after every reset, and true when the callback saw every step of
the previous call): with `a = min last num0` the re-armed origin, the trigger times `T` the child
records satisfy `n ≤ t₁ - a < n + d`, `n ≤ tᵢ₊₁ - tᵢ < n + d`; no trigger is missing at the end
(`end < lastTrigger + n`); and the node's `last_time_trigger` is the last trigger (or `a`). -/
theorem everyN_cadence (dones : Dones) (id n d cid : Nat) (st : List Nat) (hn : 0 < n)
    (k last num0 g0 nc nt lnc lnt lloc : Nat) (x : Ext) (hno : num0 < min last num0 + n) :
    let X := Cb.everyN id n last nc nt (.leaf cid st lnc lnt lloc)
    let calls := Call.trainingStart num0 :: segmentCalls num0 d g0 k
    let T := stepTimes cid (Cb.events dones X x calls)
    let a := min last num0
    gapsWithin n (n + d) a T ∧ T.getLastD a ≤ num0 + k * d ∧ num0 + k * d < T.getLastD a + n ∧
      ∃ nc' nt' lnc' lnt' lloc', (Cb.after dones X x calls).1 =
        Cb.everyN id n (T.getLastD a) nc' nt' (.leaf cid st lnc' lnt' lloc') := by
  -- `on_training_start` re-arms the trigger at `min last num0`; what the leaf records there is not a step event
  dsimp only
  rw [Lemmas.events_eq_evsOf]
  dsimp only [Cb.evsOf, Cb.call]
  rw [List.singleton_append, Lemmas.stepTimes_cons_of_ne _ _ _ rfl]
  exact Lemmas.everyN_segment dones id n d cid st hn k (min last num0) num0 g0 nc num0 lnc num0 0 x
    (Nat.min_le_right _ _) hno

/-- **After `learn(reset_num_timesteps=True)`** the cadence starts afresh from 0 *whatever* the stale
`last_time_trigger` is (this is the statement that was false before the fix `db66c67`): first trigger
at the first step with `num_timesteps ≥ n`, then every `n` (to the granularity `d`), none missing. -/
theorem everyN_cadence_after_reset (dones : Dones) (id n d cid : Nat) (st : List Nat) (hn : 0 < n)
    (k last g0 nc nt lnc lnt lloc : Nat) (x : Ext) :
    let X := Cb.everyN id n last nc nt (.leaf cid st lnc lnt lloc)
    let T := stepTimes cid (Cb.events dones X x (Call.trainingStart 0 :: segmentCalls 0 d g0 k))
    gapsWithin n (n + d) 0 T ∧ k * d < T.getLastD 0 + n := by
  have h := everyN_cadence dones id n d cid st hn k last 0 g0 nc nt lnc lnt lloc x
    (by rw [Nat.min_zero, Nat.zero_add]; exact hn)
  simp only [Nat.min_zero, Nat.zero_add] at h
  obtain ⟨hgaps, -, hnone_missing, -⟩ := h
  exact ⟨hgaps, hnone_missing⟩

/-- **Two consecutive `learn()` calls** on a fresh `EveryNTimesteps`: the first from 0 with `k1` steps,
the second either resetting the counter or continuing from `k1·d`, with `k2` steps. In the second call
the triggers again keep the cadence — measured from 0 after a reset, from the last trigger of the
first call otherwise — and none is missing. -/
theorem everyN_second_learn (dones : Dones) (id n d cid : Nat) (st : List Nat) (hn : 0 < n)
    (k1 k2 g0 : Nat) (reset : Bool) (x : Ext) :
    let X := Cb.everyN id n 0 0 0 (.leaf cid st 0 0 0)
    let calls1 := Call.trainingStart 0 :: segmentCalls 0 d g0 k1
    let T1 := stepTimes cid (Cb.events dones X x calls1)
    let X2 := (Cb.after dones X x calls1).1
    let x2 := (Cb.after dones X x calls1).2
    let num0 := if reset then 0 else k1 * d
    let T2 := stepTimes cid (Cb.events dones X2 x2 (Call.trainingStart num0 :: segmentCalls num0 d (g0 + k1) k2))
    let a := if reset then 0 else T1.getLastD 0
    gapsWithin n (n + d) 0 T1 ∧ gapsWithin n (n + d) a T2 ∧ num0 + k2 * d < T2.getLastD a + n := by
  have h1 := everyN_cadence dones id n d cid st hn k1 0 0 g0 0 0 0 0 0 x
    (by rw [Nat.min_self, Nat.zero_add]; exact hn)
  simp only [Nat.zero_add, Nat.min_self] at h1
  obtain ⟨g1, g2, g3, nc', nt', lnc', lnt', lloc', g4⟩ := h1
  refine ⟨g1, ?_⟩
  simp only [g4]
  generalize stepTimes cid (Cb.events dones (Cb.everyN id n 0 0 0 (.leaf cid st 0 0 0)) x
    (Call.trainingStart 0 :: segmentCalls 0 d g0 k1)) = T1 at g2 g3 ⊢
  generalize (Cb.after dones (Cb.everyN id n 0 0 0 (.leaf cid st 0 0 0)) x
    (Call.trainingStart 0 :: segmentCalls 0 d g0 k1)).2 = x2
  cases reset with
  | true =>
    have h2 := everyN_cadence_after_reset dones id n d cid st hn k2 (T1.getLastD 0) (g0 + k1) nc' nt' lnc' lnt' lloc' x2
    exact ⟨h2.1, by simpa using h2.2⟩
  | false =>
    have h2 := everyN_cadence dones id n d cid st hn k2 (T1.getLastD 0) (k1 * d) (g0 + k1) nc' nt' lnc' lnt' lloc' x2
      (by rw [Nat.min_eq_left g2]; exact g3)
    rw [Nat.min_eq_left g2] at h2
    exact ⟨h2.1, by simpa using h2.2.2.1⟩

/-! ### The on-new-best child after the fix of K-C13-b (commit 4379697) -/

/-- **An `EveryNTimesteps` used as `callback_on_new_best` is re-armed by a `learn()` that resets the
counter**: for every stale `last_time_trigger`, after the evaluation callback received
`trainingStart 0` the inner node's `last_time_trigger` is `0` again. -/
theorem everyN_under_new_best_rearmed (dones : Dones) (id f nc nt : Nat) (best : Option Rat) (after : Cb) (x : Ext)
    (eid n last enc ent : Nat) (ch : Cb) :
    ∃ nt' enc' ent' ch' after', ((Cb.eval id f nc nt best (.everyN eid n last enc ent ch) after).call dones
        (.trainingStart 0) x).cb = .eval id f nc nt' best (.everyN eid n 0 enc' ent' ch') after' :=
  ⟨0, enc, 0, (ch.call dones (.trainingStart 0) (after.call dones (.trainingStart 0) x).ext).cb,
    (after.call dones (.trainingStart 0) x).cb,
    -- `last_time_trigger = min(last_time_trigger, 0)`
    congrArg (Cb.eval id f nc 0 best · _) (congrArg (Cb.everyN eid n · enc 0 _) (Nat.min_zero last))⟩

/-- **A user callback placed as `callback_on_new_best` reads the locals of the very step of the
evaluation**, stated for an `EvalCallback(eval_freq = 1)` that has no best yet (so the next `on_step` evaluates and
every result is a new best) and no after-eval child: after `update_locals g` reached it, the next `on_step` emits
the evaluation and the child's step event, and that event carries `loc = g`. (`hx` — the stream of evaluation
results is not empty — is not needed: an empty stream only sets `starved`.) -/
theorem new_best_child_sees_step_locals (dones : Dones) (id nc nt : Nat) (after : Cb) (x : Ext)
    (cid : Nat) (st : List Nat) (lnc lnt lloc g num : Nat) (m : Rat) (rest : List Rat)
    (hafter : after = .absent) (hx : x.evals = m :: rest) :
    let t1 := ((Cb.eval id 1 nc nt none (.leaf cid st lnc lnt lloc) after).call dones (.updateLocals g) x)
    (t1.cb.call dones (.step num) t1.ext).evs =
      [⟨id, .evalRun, nc + 1, num, 0, true⟩, ⟨cid, .step, lnc + 1, num, g, !st.contains (lnc + 1)⟩] := by
  subst hafter
  have hdue : evalDue 1 (nc + 1) = true := by rw [Lemmas.evalDue_succ, Nat.mod_one]; rfl
  -- `update_locals` reaches the child; at the step the evaluation is due and beats `-inf`
  show ((Cb.eval id 1 nc nt none (.leaf cid st lnc lnt g) .absent).call dones (.step num) x).evs = _
  rw [Lemmas.eval_step hdue]
  dsimp only [Lemmas.callIf, isNewBest, cond_true, Cb.call]
  -- the absent after-eval child emits nothing, called or not
  cases (!st.contains (lnc + 1)) <;> rfl

/-- **A function callback is a user callback that only sees step events** (`ConvertCallback(f)`): for every
call sequence its events are the `step` events of a recording leaf with the same stop points — same
invocation count, same `num_timesteps`, same `locals`, same answers. -/
theorem convert_callback_is_leaf (dones : Dones) (id : Nat) (st : List Nat) (n nt loc : Nat) (x : Ext) (cs : List Call) :
    Cb.events dones (.fn id st n n nt loc) x cs =
      (Cb.events dones (.leaf id st n nt loc) x cs).filter (fun e => e.kind == .step) := by
  rw [Lemmas.events_eq_evsOf, Lemmas.events_eq_evsOf]
  induction cs generalizing n nt loc x with
  | nil => rfl
  | cons c cs ih =>
    rw [Cb.evsOf, Cb.evsOf, List.filter_append]
    -- the event of this call is kept or dropped by evaluating the filter on it
    cases c <;> exact congrArg (_ ++ ·) (ih ..)

/-- **`callback=None`** (wrapped into `ConvertCallback(None)`): never asks to stop, records nothing. -/
theorem no_callback_never_stops (dones : Dones) (c : Call) (x : Ext) :
    (Cb.absent.call dones c x).ok = true ∧ (Cb.absent.call dones c x).evs = [] :=
  ⟨rfl, rfl⟩

/-- **`StopTrainingOnRewardThreshold` as `callback_on_new_best`**: at an evaluation with mean reward `m`
that is a new best, the child is stepped, reads the *updated* `best_mean_reward = m`, and training continues
iff `m < reward_threshold` (and the after-eval child, which is then still called, agrees); when the evaluation
is not a new best the child is not consulted at all. -/
theorem reward_threshold_stops_iff (dones : Dones) (id f nc nt : Nat) (best : Option Rat) (tid : Nat) (thr : Rat)
    (tnc tnt : Nat) (after : Cb) (x : Ext) (num : Nat) (hdue : evalDue f (nc + 1) = true) :
    let m := x.pop.1
    let r := (Cb.eval id f nc nt best (.rewardThr tid thr tnc tnt) after).call dones (.step num) x
    (isNewBest best m = true →
      (r.ok = true ↔ m < thr ∧ (after.call dones (.step num) (x.pop.2.setP (some (some m)))).ok = true) ∧
      (⟨tid, .step, tnc + 1, num, 0, decide (m < thr)⟩ : Event) ∈ r.evs) ∧
    (isNewBest best m = false → r.ok = (after.call dones (.step num) (x.pop.2.setP (some best))).ok) := by
  dsimp only
  rw [Lemmas.eval_step hdue]
  cases isNewBest best x.pop.1
  · exact ⟨nofun, fun _ => rfl⟩
  -- the child reads the updated best: it answers `decide (m < thr)`
  refine ⟨fun _ => ⟨?_, .tail _ (.head _)⟩, nofun⟩
  show (decide (x.pop.1 < thr) && (Lemmas.callIf dones (decide (x.pop.1 < thr)) after _ _).ok) = true ↔ _
  by_cases hm : x.pop.1 < thr
  · rw [decide_eq_true hm]; exact ⟨fun h => ⟨hm, h⟩, fun h => h.2⟩
  · rw [decide_eq_false hm]; exact ⟨nofun, fun h => absurd h.1 hm⟩

/-- **`StopTrainingOnRewardThreshold` as `callback_after_eval`** (no on-new-best child): it is consulted at every
evaluation and training continues iff the best mean reward so far — including this evaluation — is below the
threshold. -/
theorem reward_threshold_after_eval (dones : Dones) (id f nc nt : Nat) (best : Option Rat) (tid : Nat) (thr : Rat)
    (tnc tnt : Nat) (x : Ext) (num : Nat) (hdue : evalDue f (nc + 1) = true) :
    ((Cb.eval id f nc nt best .absent (.rewardThr tid thr tnc tnt)).call dones (.step num) x).ok =
      belowThr (if isNewBest best x.pop.1 then some x.pop.1 else best) thr := by
  rw [Lemmas.eval_step hdue]
  cases isNewBest best x.pop.1 <;> rfl

/-- **CallbackLists hand the `parent` of their position down**, stated for a `StopTrainingOnRewardThreshold` in a
list directly inside a list: stepped with externals `x`, it reads `x.pbest` — the `best_mean_reward` that whoever
called the outer list put there — answers accordingly, and the code raises iff there is none; the lists' own
counters (any `a1 b1 a2 b2`, so also those of a first `learn()`) play no part. (Full statement since the fix
`b8355fc`; before it a list nested directly inside a list handed `parent` to its children only from the second
`learn()` on — finding K-C13-c.) -/
theorem nested_lists_pass_parent (dones : Dones) (i1 a1 b1 i2 a2 b2 tid : Nat) (thr : Rat) (tnc tnt : Nat) (x : Ext) (num : Nat) :
    let r := (Cb.list i1 a1 b1 [.list i2 a2 b2 [.rewardThr tid thr tnc tnt]]).call dones (.step num) x
    r.ok = belowThr (x.pbest.getD none) thr ∧ r.fail = x.pbest.isNone :=
  ⟨(Bool.and_true _).trans (Bool.and_true _), (Bool.or_false _).trans (Bool.or_false _)⟩

/-- **`StopTrainingOnNoModelImprovement`**, for every history of evaluations: fed the sequence `bs` of its
parent's `best_mean_reward` values (one per call), a fresh callback answers `False` at a call exactly when the
trailing run of calls that were counted (`n_calls > min_evals`) and brought no improvement over the value seen at
the previous call is longer than `max_no_improvement_evals` (`noImpSpec`, `streak`). -/
theorem no_improvement_stops_after (dones : Dones) (id maxNo minEvals : Nat) (x : Ext) (bs : List (Option Rat)) :
    feedBests dones (.noImprove id maxNo minEvals none 0 0 0) x bs = noImpSpec maxNo minEvals [] 0 none bs :=
  Lemmas.noImp_feed dones id maxNo minEvals bs [] none 0 0 0 x rfl (fun _ => rfl)

/-- **`StopTrainingOnMaxEpisodes` with any number of environments**: over `k` vectorised steps (each preceded
by the `update_locals` of that step), its `i`-th answer is `True` iff the episodes finished so far in *all*
sub-environments — `n_episodes` before plus the `dones` of steps `g0+1 … g0+i` — are fewer than
`max_episodes · n_envs`; so it stops at the first step where that count reaches `max_episodes · n_envs`. -/
theorem max_episodes_stops_at (dones : Dones) (id M n d : Nat) (k num g0 nEp nc nt loc : Nat) (x : Ext) :
    Cb.events dones (.maxEp id M n nEp nc nt loc) x (segmentCalls num d g0 k) =
      (List.range k).map (fun i => (⟨id, .step, nc + i + 1, num + (i + 1) * d, g0 + i + 1,
        decide (nEp + cumDones dones g0 (i + 1) < M * n)⟩ : Event)) := by
  rw [Lemmas.events_eq_evsOf]
  induction k generalizing num g0 nEp nc nt loc x with
  | zero => rfl
  | succ k ih =>
    rw [segmentCalls, Cb.evsOf, Cb.evsOf]
    dsimp only [Cb.call]
    rw [ih, List.range_succ_eq_map, List.map_cons, List.map_map]
    show _ :: _ = _
    congr 1
    · simp only [cumDones, Nat.add_zero, Nat.zero_add, Nat.one_mul, Event.mk.injEq, true_and]
      exact decide_eq_decide.mpr Iff.rfl
    · apply List.map_congr_left
      intro i _
      simp only [Function.comp, Event.mk.injEq, true_and]
      refine ⟨congrArg (· + 1) (Nat.add_right_comm nc 1 i), ?_, congrArg (· + 1) (Nat.add_right_comm g0 1 i), ?_⟩
      · rw [Nat.succ_mul (i + 1), Nat.add_assoc, Nat.add_comm d]
      · -- `cumDones dones g0 (i + 2)` unfolds to `dones (g0 + 1) + cumDones dones (g0 + 1) (i + 1)`
        exact decide_eq_decide.mpr (by rw [Nat.add_assoc]; exact Iff.rfl)

/-! ### Non-vacuity: concrete, non-trivial instances -/

/-- reward threshold 2 as on-new-best child: means 1, 3 → continues at the first evaluation, stops at the second -/
example : Cb.events (fun _ => 0) (.eval 0 1 0 0 none (.rewardThr 1 2 0 0) .absent) { evals := [1, 3] }
    [.step 1, .step 2] =
    [⟨0, .evalRun, 1, 1, 0, true⟩, ⟨1, .step, 1, 1, 0, true⟩, ⟨0, .evalRun, 2, 2, 0, true⟩, ⟨1, .step, 2, 2, 0, false⟩] := rfl

/-- no-improvement (max 1, min 1) fed parent bests 1, 1, 1, 2, 2, 2: stops at the 3rd call and again at the 6th -/
example : feedBests (fun _ => 0) (.noImprove 0 1 1 none 0 0 0) { evals := [] }
    [some 1, some 1, some 1, some 2, some 2, some 2] = [true, true, false, true, true, false] := rfl

/-- max-episodes 2 with 3 envs (budget 6): dones per step 2, 3, 1, 0 → answers True, True, False, False -/
example : (Cb.events (fun g => [0, 2, 3, 1, 0].getD g 0) (.maxEp 0 2 3 0 0 0 0) { evals := [] }
    (segmentCalls 0 3 0 4)).map (·.ret) = [true, true, false, false] := rfl

/-- a bare function passed to two `learn` calls: a fresh ConvertCallback each time, the function's own count goes on -/
example : ((Cb.fn 0 [] 3 3 9 3).freshRoot) = .fn 0 [] 3 0 0 0 := rfl

/-- a nested tree with distinct ids and a leaf below two lists -/
example : (Cb.list 0 0 0 [.leaf 1 [2] 0 0 0, .list 2 0 0 [.everyN 3 2 0 0 0 (.leaf 4 [] 0 0 0), .leaf 5 [] 0 0 0]]).ids.Nodup ∧
    subAt [1, 1] (Cb.list 0 0 0 [.leaf 1 [2] 0 0 0, .list 2 0 0 [.everyN 3 2 0 0 0 (.leaf 4 [] 0 0 0), .leaf 5 [] 0 0 0]]) =
      some (.leaf 5 [] 0 0 0) := ⟨by decide, rfl⟩

/-- a whole on-policy `learn(5)` with 2 envs, rollouts of 2 steps, in which the first leaf stops at its
2nd call: the later sibling still sees that step, no rollout end, training end follows -/
example :
    (learn { nEnvs := 2, onPolicy := true, kind := .steps 2, dones := fun _ => 0 } 50 0 0
      { cb := .list 0 0 0 [.leaf 1 [2] 0 0 0, .leaf 2 [] 0 0 0], ext := { evals := [] } } 5 true).trace =
    [(.trainingStart 0, true), (.rolloutStart, true), (.updateLocals 1, true), (.step 2, true),
     (.updateLocals 2, true), (.step 4, false), (.trainingEnd, true)] := rfl

example :
    proj 2 (learn { nEnvs := 2, onPolicy := true, kind := .steps 2, dones := fun _ => 0 } 50 0 0
      { cb := .list 0 0 0 [.leaf 1 [2] 0 0 0, .leaf 2 [] 0 0 0], ext := { evals := [] } } 5 true).cb.evs =
    [⟨2, .trainingStart, 0, 0, 0, true⟩, ⟨2, .rolloutStart, 0, 0, 0, true⟩, ⟨2, .step, 1, 2, 1, true⟩,
     ⟨2, .step, 2, 4, 2, true⟩, ⟨2, .trainingEnd, 2, 4, 2, true⟩] := rfl

/-- `stop_is_immediate`'s hypotheses are met by a state inside a rollout with a callback that answers False -/
example : ∃ s : LS Nat, s.pc = .inRollout 0 0 ∧ (RolloutKind.steps 3).more 0 0 = true ∧
    ((fun (c : Nat) (_ : Call) => (c + 1, false)) ((fun (c : Nat) (_ : Call) => (c + 1, false)) s.cb (.updateLocals (s.g + 1))).1
      (.step (s.num + 1))).2 = false :=
  ⟨{ pc := .inRollout 0 0, num := 0, total := 9, g := 0, cb := 0 }, rfl, by decide, rfl⟩

/-- `false_anywhere_stops_learn`'s hypotheses: a leaf two levels down (child of an EveryNTimesteps inside a list)
answers False at the step event of the next environment step (state: num = 0, g = 0, n_envs = 2) -/
example :
    (⟨3, .step, 1, 2, 1, false⟩ : Event) ∈
      ((Run.feed (fun _ => 0)
          { cb := .list 0 0 0 [.leaf 1 [] 0 0 0, .everyN 2 2 0 0 0 (.leaf 3 [1] 0 0 0)], ext := { evals := [] } }
          (.updateLocals (0 + 1))).1.cb.call (fun _ => 0) (.step (0 + 2))
        (Run.feed (fun _ => 0)
          { cb := .list 0 0 0 [.leaf 1 [] 0 0 0, .everyN 2 2 0 0 0 (.leaf 3 [1] 0 0 0)], ext := { evals := [] } }
          (.updateLocals (0 + 1))).1.ext).evs := by decide

/-- EveryNTimesteps(3) with 2 envs: a stale trigger time 100 and a reset; triggers at 4, 8 (gaps in [3,5)) -/
example : stepTimes 1 (Cb.events (fun _ => 0) (.everyN 0 3 100 7 100 (.leaf 1 [] 0 0 0)) { evals := [] }
    (Call.trainingStart 0 :: segmentCalls 0 2 0 5)) = [4, 8] := rfl

example : gapsWithin 3 (3 + 2) 0 [4, 8] := by simp [gapsWithin]

/-- the not-overdue hypothesis of `everyN_cadence` on a continued call: last trigger 8, counter 10, n = 3 -/
example : (10 : Nat) < min 8 10 + 3 := by decide

/-- checkpoint every 2 calls, counted across two learn calls with a reset in between -/
example : Cb.events (fun _ => 0) (.checkpoint 0 2 0 0) { evals := [] }
    [.trainingStart 0, .step 1, .step 2, .step 3, .trainingEnd, .trainingStart 0, .step 1, .step 2] =
    [⟨0, .save, 2, 2, 0, true⟩, ⟨0, .save, 4, 1, 0, true⟩] := rfl

/-- evaluation every 2nd call: means 1, 3, 2 → new best at the 1st and 2nd evaluation only; on the 2nd the
on-new-best child answers False, so the after-eval child is skipped -/
example : Cb.events (fun _ => 0) (.eval 0 2 0 0 none (.leaf 1 [2] 0 0 0) (.leaf 2 [] 0 0 0)) { evals := [1, 3, 2] }
    [.step 1, .step 2, .step 3, .step 4, .step 5, .step 6] =
    [⟨0, .evalRun, 2, 2, 0, true⟩, ⟨1, .step, 1, 2, 0, true⟩, ⟨2, .step, 1, 2, 0, true⟩,
     ⟨0, .evalRun, 4, 4, 0, true⟩, ⟨1, .step, 2, 4, 0, false⟩,
     ⟨0, .evalRun, 6, 6, 0, true⟩, ⟨2, .step, 2, 6, 0, true⟩] := rfl

/-- `learn_terminates`' hypotheses: an A2C-like configuration (3 envs, rollouts of 5 steps) -/
example : (0 : Nat) < 5 ∧ (0 : Nat) < ({ nEnvs := 3, onPolicy := true, kind := .steps 5, dones := fun _ => 0 } : Cfg).nEnvs := by
  decide

/-- the on-new-best child sees training start and the locals of the step (finding K-C13-b, fixed by `4379697`) -/
example : Cb.events (fun _ => 0) (.eval 0 1 0 0 none (.leaf 1 [] 0 0 0) (.leaf 2 [] 0 0 0)) { evals := [1] }
    [.trainingStart 0, .updateLocals 1, .step 1] =
    [⟨2, .trainingStart, 0, 0, 0, true⟩, ⟨1, .trainingStart, 0, 0, 0, true⟩, ⟨0, .evalRun, 1, 1, 0, true⟩,
     ⟨1, .step, 1, 1, 1, true⟩, ⟨2, .step, 1, 1, 1, true⟩] := rfl

/-- StopTrainingOnMaxEpisodes as on-new-best child has `dones` in its locals: the code does not raise -/
example : (Run.feedAll (fun _ => 0) { cb := .eval 0 1 0 0 none (.maxEp 1 2 1 0 0 0 0) .absent, ext := { evals := [1] } }
    [.trainingStart 0, .updateLocals 1, .step 1]).fail = false := rfl

/-- EveryNTimesteps(2) as on-new-best child with a stale trigger time 10: re-armed by the reset, fires at 3 -/
example : stepTimes 2 (Cb.events (fun _ => 0) (.eval 0 1 0 0 none (.everyN 1 2 10 0 0 (.leaf 2 [] 0 0 0)) .absent)
    { evals := [1] } [.trainingStart 0, .updateLocals 1, .step 3]) = [3] := rfl

example : evalDue 2 (3 + 1) = true ∧ (3 : Nat) ∉ (Cb.leaf 1 [] 0 0 0).ids := by decide

end SB3Verif.C13
