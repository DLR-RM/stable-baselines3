/-
What C12 says of the progress value and of schedules: `progressOf` as a `max`, its bounds and monotonicity, the two
trace predicates that rest on them, and the linear schedule `linearFn` as an interpolation. The only lemmas on
`Model/Learn.lean` that need ℚ as an ordered field.
-/
import SB3Verif.Lemmas.Learn
import Mathlib.Algebra.Field.Rat
import Mathlib.Algebra.Order.Ring.Rat
import Mathlib.Algebra.Order.Field.Basic

namespace SB3Verif.LearnLemmas

open SB3Verif.Learn

theorem progressOf_eq_max (n t : ℕ) : progressOf n t = max (1 - (n : ℚ) / (t : ℚ)) 0 := by
  unfold progressOf
  simp only
  split
  · rw [max_eq_right (le_of_lt ‹_›)]
  · rw [max_eq_left (not_lt.mp ‹_›)]

theorem progressOf_nonneg (n t : ℕ) : 0 ≤ progressOf n t := by
  rw [progressOf_eq_max]; exact le_max_right _ _

theorem progressOf_le_one (n t : ℕ) : progressOf n t ≤ 1 := by
  rw [progressOf_eq_max]
  exact max_le (sub_le_self 1 (div_nonneg (Nat.cast_nonneg n) (Nat.cast_nonneg t))) zero_le_one

theorem progressOf_antitone (n n' t : ℕ) (h : n ≤ n') : progressOf n' t ≤ progressOf n t := by
  rw [progressOf_eq_max, progressOf_eq_max]
  exact max_le_max_right 0 (sub_le_sub_left (div_le_div_of_nonneg_right (Nat.cast_le.mpr h) (Nat.cast_nonneg t)) 1)

theorem progressOf_before (n t : ℕ) (h : n ≤ t) : progressOf n t = 1 - (n : ℚ) / (t : ℚ) := by
  rw [progressOf_eq_max]
  exact max_eq_left (sub_nonneg.mpr (div_le_one_of_le₀ (Nat.cast_le.mpr h) (Nat.cast_nonneg t)))

theorem progressOf_after (n t : ℕ) (h : t ≤ n) (ht : 0 < t) : progressOf n t = 0 := by
  rw [progressOf_eq_max]
  exact max_eq_right (sub_nonpos.mpr ((one_le_div (Nat.cast_pos.mpr ht)).mpr (Nat.cast_le.mpr h)))

section
variable {cfg : Cfg} {c : Clk} {evs : List Ev}

/-- `hl`: the observer's last progress value was computed from an earlier counter value and the same target -/
theorem antitoneOk_of_accepts (h : Accepts cfg c evs) (last : Option ℚ)
    (hl : ∀ q, last = some q → ∃ n0, n0 ≤ c.num ∧ q = progressOf n0 c.total) : antitoneOk last evs := by
  induction evs generalizing c last with
  | nil => trivial
  | cons e es ih =>
    obtain ⟨h1, h2⟩ := h
    cases e with
    | setup n t => exact ih h2 none nofun
    | step n p =>
      refine ih h2 last fun q hq => ?_
      obtain ⟨n0, h0, e0⟩ := hl q hq
      exact ⟨n0, h1.1 ▸ Nat.le_add_right_of_le h0, e0⟩
    | progress n t p =>
      refine ⟨fun q hq => ?_, ih h2 (some p) fun q hq => ⟨c.num, Nat.le_refl _, (Option.some.inj hq).symm.trans h1.2.2⟩⟩
      obtain ⟨n0, h0, rfl⟩ := hl q hq
      exact h1.2.2 ▸ progressOf_antitone _ _ _ h0
    | _ => apply ih h2 last hl

theorem unit_of_accepts (h : Accepts cfg c evs) (hc : 0 ≤ c.progress ∧ c.progress ≤ 1) :
    ∀ e ∈ evs, ∀ p, e.prog = some p → 0 ≤ p ∧ p ≤ 1 := by
  induction evs generalizing c with
  | nil => nofun
  | cons e es ih =>
    obtain ⟨h1, h2⟩ := h
    have hu : 0 ≤ progressOf c.num c.total ∧ progressOf c.num c.total ≤ 1 := ⟨progressOf_nonneg _ _, progressOf_le_one _ _⟩
    -- the value an event carries is the stored progress, before or after the event
    suffices (∀ q, e.prog = some q → 0 ≤ q ∧ q ≤ 1) ∧ 0 ≤ (c.after e).progress ∧ (c.after e).progress ≤ 1 from
      List.forall_mem_cons.mpr ⟨this.1, ih h2 this.2⟩
    cases e with
    | setup n t => exact ⟨nofun, hc⟩
    | finish n b => exact ⟨nofun, hc⟩
    | progress n t p => exact h1.2.2 ▸ ⟨fun q hq => Option.some.inj hq ▸ hu, hu⟩
    | rolloutStart n p => exact ⟨fun q hq => Option.some.inj hq ▸ h1.2 ▸ hc, hc⟩
    | step n p => exact ⟨fun q hq => Option.some.inj hq ▸ h1.2 ▸ hc, hc⟩
    | rolloutEnd n k p => exact ⟨fun q hq => Option.some.inj hq ▸ h1.2.2 ▸ hc, hc⟩
    | train n o a p nu => exact ⟨fun q hq => Option.some.inj hq ▸ h1.2.1 ▸ hc, hc⟩

end

theorem lerp_bounds (a b t : ℚ) (h0 : 0 ≤ t) (h1 : t ≤ 1) : min a b ≤ a + t * (b - a) ∧ a + t * (b - a) ≤ max a b := by
  rcases le_total a b with hab | hab
  · rw [min_eq_left hab, max_eq_right hab]
    exact ⟨le_add_of_nonneg_right (mul_nonneg h0 (sub_nonneg.mpr hab)),
      le_sub_iff_add_le'.mp (mul_le_of_le_one_left (sub_nonneg.mpr hab) h1)⟩
  · rw [min_eq_right hab, max_eq_left hab]
    exact ⟨sub_le_iff_le_add'.mp (le_mul_of_le_one_left (sub_nonpos.mpr hab) h1),
      add_le_of_nonpos_right (mul_nonpos_of_nonneg_of_nonpos h0 (sub_nonpos.mpr hab))⟩

theorem linearFn_eq (a b f p : ℚ) (hf : 0 < f) : linearFn a b f p = a + min 1 ((1 - p) / f) * (b - a) := by
  unfold linearFn
  split
  · rw [min_eq_left ((one_le_div hf).mpr (le_of_lt ‹_›)), one_mul, add_sub_cancel]
  · rw [min_eq_right ((div_le_one hf).mpr (not_lt.mp ‹_›)), div_mul_eq_mul_div]

theorem linearFn_mono (a b f p p' : ℚ) (hf : 0 < f) (hab : b ≤ a) (hpp : p' ≤ p) :
    linearFn a b f p' ≤ linearFn a b f p := by
  rw [linearFn_eq a b f p hf, linearFn_eq a b f p' hf]
  exact add_le_add_right (mul_le_mul_of_nonpos_right
    (min_le_min_left 1 (div_le_div_of_nonneg_right (sub_le_sub_left hpp 1) hf.le)) (sub_nonpos.mpr hab)) a

end SB3Verif.LearnLemmas
