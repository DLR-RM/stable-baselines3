/-
C10 — Seeded training is reproducible.

Property theorems only (helper lemmas: `SB3Verif/Lemmas/Seeding.lean`).  All statements are about the executable
model `SB3Verif/Model/Seeding.lean`, whose definitions (`traceOK`, `lowRun`, `deliveries`, `segOps`, `run`) the
driver `SB3Verif/Driver/C10.lean` evaluates on the traces measured from the real code.

What is proved (category "other"/partial): a NON-INTERFERENCE statement about the seeding plumbing.  For every
configuration, every length and every data-dependent branch of a training run, the list of values handed out by
the library's draw sites depends on the ambient state of the random generators only through the seed — because
every draw site reads a generator that `set_random_seed` / `action_space.seed` / `env.seed`+`reset` assigned before,
and the state inside the action-noise object of the configuration is re-initialised by `_setup_learn` before its
first use.

What is NOT proved here and is measured by `harness/c10.py` on the real code instead:
* which generator each draw site of the real code reads (the correspondence streams `sites`, `lowness`,
  `delivery`, `measured`) — the theorems are about `libTrace`, the model's list of the library's draw sites;
* that everything else a run computes is a deterministic function of these values (the ambient-poisoning
  differential: bit-identical parameters, optimizer states, buffers and actions);
* "a different seed gives different results": a statement about the PRNGs' values, tested only.  The theorem
  `different_seed_changes_streams` below says only that no stream is shared.
-/
import SB3Verif.Lemmas.Seeding

namespace SB3Verif.C10

open SB3Verif.Seeding SB3Verif.Lemmas.Seeding

/-- **Non-interference.**  If every used draw of a trace reads a generator that was assigned from a seed before
(`traceOK` from no knowledge at all), then the values the draw sites return are the same from ALL ambient
states `g`, `g'` (generator states, positions, pending env seeds). -/
theorem seeded_noninterference (t : List Op) (h : traceOK Low.bot t = true) (g g' : RngState) :
    outputs t g = outputs t g' :=
  (run_unwinding t Low.bot g g' (agree_bot g g') h).1

/-- … and afterwards every generator the analysis marks is in the same state in both runs, so whatever is
appended to the run (a second `learn()`, `predict`) starts from seed-determined generators again. -/
theorem seeded_generators_agree_afterwards (t : List Op) (h : traceOK Low.bot t = true) (g g' : RngState)
    (x : Gen) (hx : (lowRun Low.bot t).gens x = true) : (run t g).1.gens x = (run t g').1.gens x :=
  (run_unwinding t Low.bot g g' (agree_bot g g') h).2.1 x hx

/-- **Converse.**  A trace the analysis rejects contains a draw whose value differs between two ambient states:
one draw site on a generator nobody seeded is enough to lose reproducibility. -/
theorem rejected_trace_depends_on_ambient_state (t : List Op) (h : traceOK Low.bot t = false) :
    ∃ g g' : RngState, outputs t g ≠ outputs t g' :=
  ⟨ambA, ambB, run_differ t Low.bot ambA ambB differ_bot h⟩

/-- The static check decides reproducibility of a trace exactly. -/
theorem traceOK_exact (t : List Op) :
    traceOK Low.bot t = true ↔ ∀ g g' : RngState, outputs t g = outputs t g' := by
  constructor
  · exact fun h g g' => seeded_noninterference t h g g'
  · intro h
    cases hb : traceOK Low.bot t with
    | true => rfl
    | false =>
      obtain ⟨a, b, hab⟩ := rejected_trace_depends_on_ambient_state t hb
      exact absurd (h a b) hab

/-- The run is a function of the trace and the starting state (two runs that start equal stay equal): the
remaining source of difference is the ambient state, which the theorems above and below remove. -/
theorem draw_site_trace_deterministic (t : List Op) (g g' : RngState) (h : g = g') : run t g = run t g' := by
  rw [h]

/-- Every draw site of the library reads a generator seeded before its first use: algorithm, number of envs,
gSDE / noise / warm-up / CNN options, how often each sub-environment draws, exploration branches, number and
order of rollouts, training calls and later `env.reset()`s are all arbitrary. -/
theorem library_trace_is_seeded (cfg : Cfg) (resetDraws : List Nat) (evs : List Ev) :
    traceOK Low.bot (libTrace cfg resetDraws evs) = true :=
  (libTrace_ok cfg resetDraws evs).1

/-- **Seeded training is reproducible (plumbing level).**  Whatever the ambient generator states `g`, `g'` of two
processes, a training run with the same configuration (incl. seed) gets the same values at every draw site. -/
theorem library_run_noninterference (cfg : Cfg) (resetDraws : List Nat) (evs : List Ev) (g g' : RngState) :
    outputs (libTrace cfg resetDraws evs) g = outputs (libTrace cfg resetDraws evs) g' :=
  seeded_noninterference _ (library_trace_is_seeded cfg resetDraws evs) g g'

/-- After the run python `random`, NumPy, torch, the action space and every sub-environment's generator are in
a seed-determined state (a second `learn()` or `predict` continues reproducibly). -/
theorem library_final_state_seeded (cfg : Cfg) (resetDraws : List Nat) (evs : List Ev) (g g' : RngState)
    (x : Gen) (hx : inFamily cfg x = true) :
    (run (libTrace cfg resetDraws evs) g).1.gens x = (run (libTrace cfg resetDraws evs) g').1.gens x :=
  seeded_generators_agree_afterwards _ (library_trace_is_seeded cfg resetDraws evs) g g' x
    (by rw [(libTrace_ok cfg resetDraws evs).2]; exact hx)

/-- Every value a draw site uses comes from a stream named by the seed: the global generators and the action space
from `seed`, sub-environment `i` from `seed + i` (and the action-noise state from the constant it is reset to); none is read from OS entropy, the observation space or a
sub-environment that does not exist (a draw whose value is thrown away may read them: `discarded_draw_is_harmless`). -/
theorem library_outputs_from_seed (cfg : Cfg) (resetDraws : List Nat) (evs : List Ev) (g : RngState) (d : Draw)
    (hd : d ∈ outputs (libTrace cfg resetDraws evs) g) :
    inFamily cfg d.gen = true ∧ d.origin = famOrigin cfg d.gen :=
  (libTrace_run cfg resetDraws evs g).2.1 d hd

/-- `env.seed(seed)` reaches the sub-environments at the first reset as `seed + i` TOGETHER WITH whatever reset
options are pending there (`set_options` by the env constructor: any per-env pattern of options and empty
entries) — pending options never displace the seed; every later reset passes `None` and no options (the
generators keep running), whatever `_seeds` / `_options` held before the model was built. -/
theorem env_seed_delivery (cfg : Cfg) (resetDraws : List Nat) (evs : List Ev) (g : RngState) :
    deliveries (libTrace cfg resetDraws evs) g =
      (List.range cfg.nEnvs).map (fun i => (some (cfg.seed + i), g.options i)) ::
        List.replicate (resetCount evs) (List.replicate cfg.nEnvs (none, none)) :=
  (libTrace_run cfg resetDraws evs g).2.2

/-- Pending reset options are inert for the random state: the values at the draw sites do not depend on them
(in particular a sub-env with options pending is re-seeded exactly like one without). -/
theorem pending_options_do_not_matter (cfg : Cfg) (resetDraws : List Nat) (evs : List Ev) (g : RngState)
    (opts : List (Option Nat)) :
    outputs (libTrace cfg resetDraws evs) (g.withOptions opts) = outputs (libTrace cfg resetDraws evs) g :=
  library_run_noninterference cfg resetDraws evs _ _

/-- Sub-environments get pairwise different streams. -/
theorem sub_env_streams_distinct (cfg : Cfg) (i j : Nat) (h : i ≠ j) :
    famOrigin cfg (.env i) ≠ famOrigin cfg (.env j) :=
  fun hc => h (Nat.add_left_cancel (Origin.seed.inj hc))

/-- Changing only the seed changes the stream of every draw site (stream identity, not PRNG values: that the
values differ is tested by run C of the differential).  The state inside the action-noise object is excluded:
it restarts from the same constant under every seed (its increments come from the `np` draws, which are covered). -/
theorem different_seed_changes_streams (cfg cfg' : Cfg) (hs : cfg.seed ≠ cfg'.seed)
    (ds ds' : List Nat) (evs evs' : List Ev) (g g' : RngState) (d d' : Draw)
    (hd : d ∈ outputs (libTrace cfg ds evs) g) (hd' : d' ∈ outputs (libTrace cfg' ds' evs') g')
    (hg : d.gen = d'.gen) (hnoise : d.gen ≠ .noise) : d.origin ≠ d'.origin := by
  obtain ⟨j, hj⟩ := famOrigin_eq_seed_add (hg ▸ hnoise)
  rw [(library_outputs_from_seed cfg ds evs g d hd).2, (library_outputs_from_seed cfg' ds' evs' g' d' hd').2, hg, hj, hj]
  exact fun hc => hs (Nat.add_right_cancel (Origin.seed.inj hc))

/-- Remark (true of the code as well): sub-env `i+1` under seed `s` reads the stream of sub-env `i` under seed
`s+1` — "a different seed" shares environment streams with its neighbours, shifted by one env. -/
theorem adjacent_seed_shares_env_stream (cfg : Cfg) (i : Nat) :
    famOrigin cfg (.env (i + 1)) = famOrigin { cfg with seed := cfg.seed + 1 } (.env i) :=
  congrArg Origin.seed (Nat.add_right_comm cfg.seed i 1)

/-- One additional draw site on a generator outside the seeded family (OS entropy / a fresh `default_rng()`,
the observation space, a generator of an env the VecEnv does not own) after any run of the library: the run is
no longer reproducible. -/
theorem unseeded_site_breaks_it (cfg : Cfg) (resetDraws : List Nat) (evs : List Ev) (x : Gen) (k : Nat)
    (hx : inFamily cfg x = false) :
    ∃ g g' : RngState, outputs (libTrace cfg resetDraws evs ++ [.draw x k]) g ≠
      outputs (libTrace cfg resetDraws evs ++ [.draw x k]) g' :=
  unmarked_draw_differs k ((libTrace_ok cfg resetDraws evs).2 ▸ hx)

/-- … whereas a draw whose value is thrown away (`observation_space.sample()` for a shape) is harmless. -/
theorem discarded_draw_is_harmless (cfg : Cfg) (resetDraws : List Nat) (evs : List Ev) (x : Gen) (k : Nat)
    (g g' : RngState) :
    outputs (libTrace cfg resetDraws evs ++ [.discard x k]) g =
      outputs (libTrace cfg resetDraws evs ++ [.discard x k]) g' := by
  apply seeded_noninterference
  rw [traceOK_append, (libTrace_ok cfg resetDraws evs).1]
  rfl

/-- Drawing before seeding (e.g. building the networks before `set_random_seed`) breaks it, whatever follows. -/
theorem draw_before_seeding_breaks_it (x : Gen) (k : Nat) (t : List Op) :
    ∃ g g' : RngState, outputs (.draw x k :: t) g ≠ outputs (.draw x k :: t) g' :=
  rejected_trace_depends_on_ambient_state _ rfl

/-- Dropping one of the three global seedings (`random.seed`, `np.random.seed`, `th.manual_seed`) or
`action_space.seed` breaks it as soon as that generator is read. -/
theorem missing_global_seed_breaks_it (x : Gen) (s k : Nat) (seeded : List Gen) (hx : x ∉ seeded) :
    ∃ g g' : RngState, outputs (seeded.map (fun y => Op.seed y s) ++ [.draw x k]) g ≠
      outputs (seeded.map (fun y => Op.seed y s) ++ [.draw x k]) g' :=
  unmarked_draw_differs k (lowRun_seed_other s hx Low.bot)

/-- **State inside objects of the configuration.**  The action-noise object may have been used before (an earlier
run with the very same kwargs that stopped in the middle of an episode): `library_trace_is_seeded` holds because
`_setup_learn` resets it before the first step, for every number of envs.  Without that reset (e.g. resetting
only when `num_envs > 1`) the first Ornstein-Uhlenbeck draw depends on the leftover state: not reproducible. -/
theorem dropping_noise_reset_breaks_it (cfg : Cfg) (resetDraws : List Nat) (k : Nat) :
    ∃ g g' : RngState,
      outputs (construct cfg ++ segOps cfg (.reset resetDraws) ++ [.draw .noise k]) g ≠
      outputs (construct cfg ++ segOps cfg (.reset resetDraws) ++ [.draw .noise k]) g' :=
  unmarked_draw_differs k (noReset_noise_unmarked cfg resetDraws)

/-- … and with the reset the noise state is a constant from the first `learn()` on, whatever it held before. -/
theorem action_noise_state_is_reset (cfg : Cfg) (resetDraws : List Nat) (evs : List Ev) (g g' : RngState)
    (h : cfg.noise ≠ .none) :
    (run (libTrace cfg resetDraws evs) g).1.gens .noise = (run (libTrace cfg resetDraws evs) g').1.gens .noise ∧
    ((run (libTrace cfg resetDraws evs) g).1.gens .noise).origin = .const := by
  have hf : inFamily cfg .noise = true := decide_eq_true h
  exact ⟨library_final_state_seeded cfg resetDraws evs g g' .noise hf,
    (libTrace_run cfg resetDraws evs g).1.1 .noise hf⟩

/-- Dropping `env.seed(seed)`: the sub-environments keep their ambient generators through the reset. -/
theorem missing_env_seed_breaks_it (s n i k : Nat) :
    ∃ g g' : RngState,
      outputs [.seed .py s, .seed .np s, .seed .torch s, .seed .actSpace s, .envReset n, .draw (.env i) k] g ≠
      outputs [.seed .py s, .seed .np s, .seed .torch s, .seed .actSpace s, .envReset n, .draw (.env i) k] g' :=
  -- nothing is known of the pending seeds (`unknown`), so the reset marks `env i` neither for `i < n` nor otherwise
  unmarked_draw_differs (t := [.seed .py s, .seed .np s, .seed .torch s, .seed .actSpace s, .envReset n]) k
    (ite_self _)

/-! ### The hypotheses are satisfiable by non-trivial data -/

/-- a DQN run with two envs: warm-up step, epsilon-greedy step that explores, a training call, a second reset -/
def exampleCfg : Cfg :=
  { algo := .dqn, nEnvs := 2, seed := 7, useSde := false, sdeFreq := 0, useSdeAtWarmup := false, noise := .none,
    learningStarts := 2, cnn := true, envPy := true, envNp := false, initDraws := 40 }

def exampleEvents : List Ev :=
  [.rolloutStart, .step 0 0 false [1, 1], .step 2 1 true [1, 3], .rolloutEnd, .train 2 false false, .reset [2, 2]]

example : traceOK Low.bot (libTrace exampleCfg [2, 2] exampleEvents) = true := by decide +kernel

/-- TD3, one env, Ornstein-Uhlenbeck noise, a second `learn()` -/
def exampleCfgOU : Cfg :=
  { exampleCfg with algo := .td3, nEnvs := 1, noise := .ou, learningStarts := 0, cnn := false, envPy := false }

def exampleEventsOU : List Ev :=
  [.rolloutStart, .step 0 0 false [1], .rolloutEnd, .train 1 true false, .learnStart, .reset [2], .step 1 0 false [3]]

example : traceOK Low.bot (libTrace exampleCfgOU [2] exampleEventsOU) = true := by decide +kernel

/-- the same run without the two `action_noise.reset()` calls is rejected -/
example : traceOK Low.bot (construct exampleCfgOU ++ segOps exampleCfgOU (.reset [2]) ++
    eventsOps exampleCfgOU [.rolloutStart, .step 0 0 false [1]]) = false := by decide +kernel

/-- hypothesis of `action_noise_state_is_reset` -/
example : exampleCfgOU.noise ≠ .none := by decide

example : (outputs (libTrace exampleCfg [2, 2] exampleEvents) (ambientState 3 (some 11))).length = 21 := by decide +kernel

example : deliveries (libTrace exampleCfg [2, 2] exampleEvents) (ambientState 3 (some 11)) =
    [[(some 7, none), (some 8, none)], [(none, none), (none, none)]] := by decide +kernel

/-- options pending for env 1 only (per-env list with an empty entry): the seeds still arrive -/
example : deliveries (libTrace exampleCfg [2, 2] exampleEvents) ((ambientState 3 (some 11)).withOptions [none, some 5]) =
    [[(some 7, none), (some 8, some 5)], [(none, none), (none, none)]] := by decide +kernel

/-- a reset that passes the seed only when no options are pending (not the model's `envReset`) would leave env 1
ambient: the trace in which env 1 is not re-seeded is rejected -/
example : traceOK Low.bot [.seed .np 7, .envSeed 7 1, .envReset 2, .draw (.env 1) 1] = false := by decide

/-- hypothesis of `seeded_noninterference` / `seeded_generators_agree_afterwards` -/
example : traceOK Low.bot [.seed .np 3, .envSeed 3 2, .envReset 2, .draw .np 2, .draw (.env 1) 1] = true ∧
    (lowRun Low.bot [.seed .np 3, .envSeed 3 2, .envReset 2, .draw .np 2, .draw (.env 1) 1]).gens (.env 0) = true := by
  decide +kernel

/-- hypothesis of `rejected_trace_depends_on_ambient_state`: the generator of env 2 was never seeded (`n = 2`) -/
example : traceOK Low.bot [.seed .np 3, .envSeed 3 2, .envReset 2, .draw (.env 2) 1] = false := by decide

/-- hypothesis of `unseeded_site_breaks_it` -/
example : inFamily exampleCfg .os = false ∧ inFamily exampleCfg (.env 2) = false ∧
    inFamily exampleCfg .obsSpace = false := by decide

/-- hypothesis of `missing_global_seed_breaks_it`: NumPy's seeding dropped from `set_random_seed` -/
example : Gen.np ∉ [Gen.py, Gen.torch, Gen.actSpace] := by decide

/-- hypothesis of `different_seed_changes_streams` -/
example : exampleCfg.seed ≠ { exampleCfg with seed := 8 }.seed := by decide

example : Gen.np ≠ Gen.noise ∧ Gen.env 1 ≠ Gen.noise := by decide

end SB3Verif.C10
