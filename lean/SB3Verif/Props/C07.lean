/-
C07 — each training update applies the gradient of the algorithm's published objective.

The theorems are about the executable definitions of `SB3Verif/Model/Objective.lean` — the same ones
`Driver/C07.lean` runs at `Float` on the real minibatches — instantiated at ℝ.  For every algorithm they say:
the cotangent list the driver returns (∂ loss / ∂ network output, per sample) IS the derivative of the loss the
driver evaluates, for every batch size, every sample index and all values of the outputs, away from the kinks of
`min` / `clamp` (a null set; the Huber loss has none).  The harness pushes exactly these cotangents through the
real networks with `torch.autograd.grad` and compares with the gradients captured at `optimizer.step`.

Outside the theorems (trusted / correspondence only): the chain rule through the networks (PyTorch autograd),
float32 arithmetic, the optimizers, which batch is drawn.
-/
import SB3Verif.Lemmas.Objective
import Mathlib.Analysis.SpecialFunctions.ExpDeriv

namespace SB3Verif.C07

open SB3Verif.Objective SB3Verif.Lemmas.Objective

/-! ### PPO -/

/-- Away from the kinks `ratio = 1 ± ε`, `surrGrad` is the derivative of the clipped surrogate
`min (A·r) (A·clamp r (1-ε) (1+ε))`, `r = exp (logp - oldLogp)`, with respect to `logp`:
`A·r` where the unclipped term is active, `0` where the clip is. -/
theorem ppo_surrogate_hasDerivAt (ε A o x₀ : ℝ) (hε : 0 ≤ ε)
    (h1 : ratio x₀ o ≠ 1 - ε) (h2 : ratio x₀ o ≠ 1 + ε) :
    HasDerivAt (fun x => surr ε A (ratio x o)) (surrGrad ε A o x₀) x₀ := by
  have hr : HasDerivAt (fun x => Real.exp (x - o)) (Real.exp (x₀ - o)) x₀ :=
    (Real.hasDerivAt_exp (x₀ - o)).comp_sub_const x₀ o
  rcases lt_trichotomy A 0 with hA | hA | hA
  · exact hasDerivAt_of_eq ((hasDerivAt_max_const hr h1).const_mul A)
      (fun x => surr_of_nonpos hε hA.le _) (surrGrad_of_neg hε hA o x₀)
  · subst hA
    refine hasDerivAt_of_eq (hasDerivAt_const x₀ (0 : ℝ)) (fun x => ?_) ?_
    · rw [surr_of_nonneg le_rfl, zero_mul]
    · rw [surrGrad_real, zero_mul, ite_self]
  · exact hasDerivAt_of_eq ((hasDerivAt_min_const hr h2).const_mul A)
      (fun x => surr_of_nonneg hA.le _) (surrGrad_of_pos hA o x₀)

/-- inside the clip range the cotangent is `A·r`; -/
example : surrGrad (1 / 5 : ℝ) 3 0 0 = 3 := by
  norm_num [surrGrad_real]
/-- hypotheses of `ppo_surrogate_hasDerivAt` are met inside the range … -/
example : ratio (0 : ℝ) 0 ≠ 1 - 1 / 5 ∧ ratio (0 : ℝ) 0 ≠ 1 + 1 / 5 := by
  rw [ratio_real, sub_zero, Real.exp_zero]; norm_num
/-- … and in the clipped branch (`r = e > 1.2`, `A > 0`), where the cotangent is `0`. -/
example : ratio (1 : ℝ) 0 ≠ 1 - 1 / 5 ∧ ratio (1 : ℝ) 0 ≠ 1 + 1 / 5 ∧ surrGrad (1 / 5 : ℝ) 3 0 1 = 0 := by
  have h : (1 : ℝ) + 1 / 5 < Real.exp (1 - 0) := by
    rw [sub_zero]; exact lt_trans (by norm_num) (Real.add_one_lt_exp one_ne_zero)
  exact ⟨ne_of_gt (lt_trans (by norm_num) h), ne_of_gt h,
    by rw [surrGrad_of_pos three_pos, if_neg (not_le.mpr h), mul_zero]⟩

/-- **PPO, log-probabilities.**  `(ppoCotLogp c S)[j]` is the partial derivative of the whole PPO loss
(`policy_loss + ent_coef * entropy_loss + vf_coef * value_loss`, each a batch mean) with respect to the
log-probability of sample `j`: `-(surrGrad)/B`, plus `ent_coef/B` when the entropy is estimated by `-log_prob`. -/
theorem ppo_loss_hasDerivAt_logp (c : PGConfig ℝ) (S : List (PGSample ℝ)) (j : ℕ) (hj : j < S.length)
    (hε : 0 ≤ c.clip) (h1 : ratio S[j].logp S[j].oldLogp ≠ 1 - c.clip)
    (h2 : ratio S[j].logp S[j].oldLogp ≠ 1 + c.clip) :
    HasDerivAt (fun x => ppoLoss c (S.set j { S[j] with logp := x }))
      ((ppoCotLogp c S)[j]'(by simpa using hj)) S[j].logp :=
  pgLoss_hasDerivAt (ppoLoss_eq c) S j hj (fun x => { S[j] with logp := x })
    (ppo_surrogate_hasDerivAt c.clip S[j].adv S[j].oldLogp S[j].logp hε h1 h2)
    (entTerm_hasDerivAt_logp c.hasEntropy S[j])
    (hasDerivAt_zero_of_const fun _ => rfl)
    -- the entry of the cotangent list is `-(p/B) + ec·(-(e/B)) + vc·(v/B)` for the three derivatives above
    ((List.getElem_map _).trans (by
      simp only [entLogpCot_real, zero_div, mul_zero, add_zero, ofNat_real, ite_div, neg_ite, neg_div, neg_neg, neg_zero,
        mul_ite, mul_one_div]))

/-- **PPO, values.**  `(valueCot …)[j]` is the partial derivative of the PPO loss with respect to the value
prediction of sample `j` (clipped variant: zero where `|v - v_old| > clip_range_vf`), away from the clamp's kinks
`v - v_old = ± clip_range_vf`, with `clip_range_vf ≥ 0`.  (A2C, which never clips: `a2c_loss_hasDerivAt_value`.) -/
theorem ppo_loss_hasDerivAt_value (c : PGConfig ℝ) (S : List (PGSample ℝ)) (j : ℕ) (hj : j < S.length)
    (hk : ∀ cv, c.clipVf = some cv →
      0 ≤ cv ∧ S[j].value - S[j].oldValue ≠ cv ∧ S[j].value - S[j].oldValue ≠ -cv) :
    HasDerivAt (fun x => ppoLoss c (S.set j { S[j] with value := x }))
      ((valueCot c.vfCoef c.clipVf S)[j]'(by simpa using hj)) S[j].value :=
  pgLoss_hasDerivAt (ppoLoss_eq c) S j hj (fun x => { S[j] with value := x })
    (hasDerivAt_zero_of_const fun _ => rfl)
    (hasDerivAt_zero_of_const fun _ => rfl)
    (valueTerm_hasDerivAt c.clipVf S[j] hk)
    ((List.getElem_map _).trans (by simp only [zero_div, neg_zero, mul_zero, zero_add, two_real, ofNat_real]))

/-- **PPO, entropies.**  `(entropyCot c S)[j]` is the partial derivative of the PPO loss with respect to the entropy
output of sample `j`, everywhere (its value is `-ent_coef/B`, and `0` when the distribution has no analytic entropy
and the entropy output is not read). -/
theorem ppo_loss_hasDerivAt_entropy (c : PGConfig ℝ) (S : List (PGSample ℝ)) (j : ℕ) (hj : j < S.length) :
    HasDerivAt (fun x => ppoLoss c (S.set j { S[j] with entropy := x }))
      ((entropyCot c S)[j]'(by simpa using hj)) S[j].entropy :=
  pgLoss_hasDerivAt (ppoLoss_eq c) S j hj (fun x => { S[j] with entropy := x })
    (hasDerivAt_zero_of_const fun _ => rfl)
    (entTerm_hasDerivAt_entropy c.hasEntropy S[j])
    (hasDerivAt_zero_of_const fun _ => rfl)
    ((List.getElem_map _).trans (by
      simp only [zero_div, neg_zero, mul_zero, zero_add, add_zero, one_real, zero_real, ofNat_real, ite_div, neg_ite]))

/-- a two-sample batch whose second sample is strictly inside the value-clip range meets the hypotheses -/
example : ∀ cv, (some (1 / 5 : ℝ)) = some cv →
    0 ≤ cv ∧ (1 / 10 : ℝ) - 0 ≠ cv ∧ (1 / 10 : ℝ) - 0 ≠ -cv := by
  intro cv h; cases h; norm_num

/-! ### A2C -/

/-- **A2C, log-probabilities**: `-(A_j)/B` (+ the entropy estimate term). -/
theorem a2c_loss_hasDerivAt_logp (c : PGConfig ℝ) (S : List (PGSample ℝ)) (j : ℕ) (hj : j < S.length) :
    HasDerivAt (fun x => a2cLoss c (S.set j { S[j] with logp := x }))
      ((a2cCotLogp c S)[j]'(by simpa using hj)) S[j].logp :=
  pgLoss_hasDerivAt (a2cLoss_eq c) S j hj (fun x => { S[j] with logp := x })
    (hasDerivAt_const_mul S[j].adv)
    (entTerm_hasDerivAt_logp c.hasEntropy S[j])
    (hasDerivAt_zero_of_const fun _ => rfl)
    ((List.getElem_map _).trans (by
      simp only [entLogpCot_real, zero_div, mul_zero, add_zero, ofNat_real, ite_div, neg_ite, neg_div, neg_neg, neg_zero,
        mul_ite, mul_one_div]))

/-- **A2C, values**: the cotangent of PPO's unclipped variant; no exception set. -/
theorem a2c_loss_hasDerivAt_value (c : PGConfig ℝ) (S : List (PGSample ℝ)) (j : ℕ) (hj : j < S.length) :
    HasDerivAt (fun x => a2cLoss c (S.set j { S[j] with value := x }))
      ((valueCot c.vfCoef none S)[j]'(by simpa using hj)) S[j].value :=
  pgLoss_hasDerivAt (a2cLoss_eq c) S j hj (fun x => { S[j] with value := x })
    (hasDerivAt_zero_of_const fun _ => rfl)
    (hasDerivAt_zero_of_const fun _ => rfl)
    (valueTerm_hasDerivAt none S[j] (fun _ h => nomatch h))
    ((List.getElem_map _).trans (by simp only [zero_div, neg_zero, mul_zero, zero_add, two_real, ofNat_real]))

/-- **A2C, entropies**: the same cotangent list as PPO. -/
theorem a2c_loss_hasDerivAt_entropy (c : PGConfig ℝ) (S : List (PGSample ℝ)) (j : ℕ) (hj : j < S.length) :
    HasDerivAt (fun x => a2cLoss c (S.set j { S[j] with entropy := x }))
      ((entropyCot c S)[j]'(by simpa using hj)) S[j].entropy :=
  pgLoss_hasDerivAt (a2cLoss_eq c) S j hj (fun x => { S[j] with entropy := x })
    (hasDerivAt_zero_of_const fun _ => rfl)
    (entTerm_hasDerivAt_entropy c.hasEntropy S[j])
    (hasDerivAt_zero_of_const fun _ => rfl)
    ((List.getElem_map _).trans (by
      simp only [zero_div, neg_zero, mul_zero, zero_add, add_zero, one_real, zero_real, ofNat_real, ite_div, neg_ite]))

/-! ### distributions without an analytic entropy (`hasEntropy = false`: `evaluate_actions` returned `entropy = None`,
e.g. gSDE with the tanh bijector): the objective uses the Monte-Carlo estimate `-mean (log π_θ(a|s))` of the CURRENT
policy, so the entropy term is a function of `logp` and contributes `+ent_coef/B` to its cotangent -/

/-- The cotangent w.r.t. `logp_j` the driver returns, spelled out: the surrogate's `-(surrGrad)/B`, plus
`ent_coef/B` exactly when the entropy is estimated from the log-probabilities (PPO), `-(A_j)/B` plus the same (A2C). -/
theorem cot_logp_entropy_estimate (c : PGConfig ℝ) (S : List (PGSample ℝ)) (j : ℕ) (hj : j < S.length) :
    (ppoCotLogp c S)[j]'(by simpa using hj) =
      -(surrGrad c.clip S[j].adv S[j].oldLogp S[j].logp / (S.length : ℝ))
        + (if c.hasEntropy then 0 else c.entCoef / (S.length : ℝ))
    ∧ (a2cCotLogp c S)[j]'(by simpa using hj) =
      -(S[j].adv / (S.length : ℝ)) + (if c.hasEntropy then 0 else c.entCoef / (S.length : ℝ)) := by
  exact ⟨(List.getElem_map _).trans (congrArg (_ + ·) (entLogpCot_real c _)),
    (List.getElem_map _).trans (congrArg (_ + ·) (entLogpCot_real c _))⟩

/-- **Entropy estimated from `logp`.**  With `hasEntropy = false` the entropy term `ent_coef * (-mean (-logp))` alone has
derivative `ent_coef/B` in `logp_j`.  (So raising `logp_j`, which lowers the estimated entropy, raises that term when
`ent_coef > 0`; the sign is not a separate clause of the statement.) -/
theorem entropy_estimate_term_hasDerivAt (ec : ℝ) (S : List (PGSample ℝ)) (j : ℕ) (hj : j < S.length) :
    HasDerivAt (fun x => ec * entropyLoss false (S.set j { S[j] with logp := x })) (ec / (S.length : ℝ)) S[j].logp :=
  ((hasDerivAt_meanMap_set (fun s : PGSample ℝ => -s.logp) S j hj (fun x => { S[j] with logp := x })
    (hasDerivAt_neg' S[j].logp) rfl).fun_neg.const_mul ec).congr_deriv (by rw [neg_div, neg_neg, mul_one_div])

/-! ### the loss is affine in the coefficients; the entropy bonus has the right sign -/

theorem loss_linear_in_coefs (c : PGConfig ℝ) (S : List (PGSample ℝ)) :
    ppoLoss c S = ppoLoss { c with entCoef := 0, vfCoef := 0 } S
      + c.entCoef * entropyLoss c.hasEntropy S + c.vfCoef * valueLoss c.clipVf S
    ∧ a2cLoss c S = a2cLoss { c with entCoef := 0, vfCoef := 0 } S
      + c.entCoef * entropyLoss c.hasEntropy S + c.vfCoef * valueLoss none S := by
  constructor <;> simp [ppoLoss, a2cLoss]

/-- PPO with an analytic entropy (`hasEntropy = true`) and a positive entropy coefficient: a larger entropy output on
any one sample gives a strictly smaller loss. -/
theorem entropy_increases_lowers_loss (c : PGConfig ℝ) (S : List (PGSample ℝ)) (j : ℕ) (hj : j < S.length)
    (hc : 0 < c.entCoef) (he : c.hasEntropy = true) (x x' : ℝ) (hx : x < x') :
    ppoLoss c (S.set j { S[j] with entropy := x' }) < ppoLoss c (S.set j { S[j] with entropy := x }) := by
  have hp : ∀ y, meanMap (surrTerm c.clip) (S.set j { S[j] with entropy := y }) = meanMap (surrTerm c.clip) S :=
    fun y => meanMap_set_eq _ S j hj _ rfl
  have hv : ∀ y, meanMap (valueTerm c.clipVf) (S.set j { S[j] with entropy := y })
      = meanMap (valueTerm c.clipVf) S := fun y => meanMap_set_eq _ S j hj _ rfl
  rw [ppoLoss_eq, ppoLoss_eq, he, hp, hp, hv, hv]
  exact add_lt_add_left (add_lt_add_right
    (mul_lt_mul_of_pos_left (neg_lt_neg (meanMap_set_lt (entTerm true) S j hj
      (s := { S[j] with entropy := x }) (s' := { S[j] with entropy := x' }) hx)) hc) _) _

/-- normalised advantages sum to zero (what `(A - mean A) / (std A + 1e-8)` must satisfy whatever the divisor) -/
theorem normalized_advantages_sum_zero (l : List ℝ) (h : l ≠ []) : (normAdv l).sum = 0 := by
  rw [normAdv, sum_map_sub_div, mean_real,
    mul_div_cancel₀ _ (Nat.cast_ne_zero.mpr (List.length_pos_iff.mpr h).ne'), sub_self, zero_div]

/-! ### DQN -/

/-- The Huber loss (β = 1) is differentiable everywhere, with derivative `clamp x (-1) 1`. -/
theorem smoothL1_hasDerivAt (x : ℝ) : HasDerivAt smoothL1 (smoothL1Grad x) x :=
  SB3Verif.Lemmas.Objective.smoothL1_hasDerivAt x

/-- **DQN.**  `(dqnCot γ S)[j]` is the partial derivative of `mean_i huber(q_i - y_i)`,
`y_i = r_i + (1 - d_i)·γ·max_a Q'(s'_i, a)`, with respect to `q_j` — no exception set. -/
theorem dqn_loss_hasDerivAt (γ : ℝ) (S : List (QSample ℝ)) (j : ℕ) (hj : j < S.length) :
    HasDerivAt (fun x => dqnLoss γ (S.set j { S[j] with q := x }))
      ((dqnCot γ S)[j]'(by simpa using hj)) S[j].q := by
  exact hasDerivAt_meanMap_set (fun s : QSample ℝ => smoothL1 (s.q - dqnTarget γ s)) S j hj
    (fun x => { S[j] with q := x }) ((smoothL1_hasDerivAt (S[j].q - dqnTarget γ S[j])).comp_sub_const _ _)
    (List.getElem_map _)

/-- A terminal transition (`done = 1`) does not bootstrap: the target is the reward (all three TD targets). -/
theorem td_target_done_masks_bootstrap (γ r boot : ℝ) : tdTarget γ r 1 boot = r := by
  simp [tdTarget_real]

/-- and a non-terminal one bootstraps with weight `γ` -/
theorem td_target_not_done (γ r boot : ℝ) : tdTarget γ r 0 boot = r + γ * boot := by
  simp [tdTarget_real]

/-! ### SAC -/

/-- **SAC critics.**  `((sacCriticCot …)[j])[k] = (q_{k,j} - y_j)/B` is the partial derivative of
`0.5 · Σ_k mean_i (q_{k,i} - y_i)²` with respect to the output of critic `k` on sample `j`
(the target `y` carries no cotangent: it is a constant of the objective). -/
theorem sac_critic_hasDerivAt (γ αc : ℝ) (nc : ℕ) (S : List (CriticSample ℝ)) (j : ℕ) (hj : j < S.length)
    (k : ℕ) (hk : k < nc) (hkq : k < S[j].qs.length) :
    HasDerivAt (fun x => sacCriticLoss γ αc nc (S.set j { S[j] with qs := S[j].qs.set k x }))
      (((sacCriticCot γ αc nc S)[j]'(by simpa using hj)).getD k 0) (S[j].qs.getD k 0) := by
  exact hasDerivAt_of_eq
    ((criticSum_hasDerivAt S j hj k (sacTarget γ αc) nc hk hkq (fun _ => rfl)).const_mul (half : ℝ))
    (fun _ => rfl)
    ((getD_getElem_map_range _ _ S j _ hk).trans (by simp only [two_real, zero_real, ofNat_real]))

/-- **TD3 / DDPG critics**: `2 (q_{k,j} - y_j)/B` for `Σ_k mean_i (q_{k,i} - y_i)²`. -/
theorem td3_critic_hasDerivAt (γ : ℝ) (nc : ℕ) (S : List (CriticSample ℝ)) (j : ℕ) (hj : j < S.length)
    (k : ℕ) (hk : k < nc) (hkq : k < S[j].qs.length) :
    HasDerivAt (fun x => td3CriticLoss γ nc (S.set j { S[j] with qs := S[j].qs.set k x }))
      (((td3CriticCot γ nc S)[j]'(by simpa using hj)).getD k 0) (S[j].qs.getD k 0) := by
  exact hasDerivAt_of_eq (criticSum_hasDerivAt S j hj k (td3Target γ) nc hk hkq (fun _ => rfl))
    (fun _ => rfl)
    ((getD_getElem_map_range _ _ S j _ hk).trans (by simp only [two_real, zero_real, ofNat_real]))

/-- The bootstrap `min_i Q'_i` never exceeds any single target critic (clipped double-Q). -/
theorem min_le_each_critic (qs : List ℝ) (q : ℝ) (hq : q ∈ qs) : minList qs ≤ q :=
  minList_le_mem qs q hq

/-- … and it is one of them. -/
theorem min_is_some_critic (qs : List ℝ) (h : qs ≠ []) : minList qs ∈ qs :=
  (List.min?_eq_some_iff.mp (min?_eq_minList qs h)).1

/-- **SAC actor, log-probabilities**: `α/B`. -/
theorem sac_actor_hasDerivAt_logp (αc : ℝ) (S : List (ActorSample ℝ)) (j : ℕ) (hj : j < S.length) :
    HasDerivAt (fun x => sacActorLoss αc (S.set j { S[j] with logp := x }))
      ((sacActorCotLogp αc S)[j]'(by simpa using hj)) S[j].logp := by
  exact hasDerivAt_meanMap_set (fun s : ActorSample ℝ => αc * s.logp - minList s.qpis) S j hj
    (fun x => { S[j] with logp := x }) ((hasDerivAt_const_mul αc).sub_const (minList S[j].qpis))
    (List.getElem_map _)

/-- **SAC actor, critic outputs.**  When the minimum over the critics on sample `j` is not tied at critic `k`
(`k` is the strict arg-min, or some other critic is strictly smaller), `((sacActorCotQ S)[j])[k]` — `-1/B` for the
arg-min critic, `0` for the others — is the partial derivative of `mean_i (α·logπ_i - min_k q_{k,i})`. -/
theorem sac_actor_hasDerivAt_q (αc : ℝ) (S : List (ActorSample ℝ)) (j : ℕ) (hj : j < S.length)
    (k : ℕ) (hk : k < S[j].qpis.length)
    (hno_tie : (∀ i (hi : i < S[j].qpis.length), i ≠ k → S[j].qpis[k] < S[j].qpis[i]) ∨
      (∃ i, ∃ hi : i < S[j].qpis.length, S[j].qpis[i] < S[j].qpis[k])) :
    HasDerivAt (fun x => sacActorLoss αc (S.set j { S[j] with qpis := S[j].qpis.set k x }))
      (((sacActorCotQ S)[j]'(by simpa using hj)).getD k 0) S[j].qpis[k] := by
  exact hasDerivAt_meanMap_set (fun s : ActorSample ℝ => αc * s.logp - minList s.qpis) S j hj
    (fun x => { S[j] with qpis := S[j].qpis.set k x })
    (sacActorTerm_hasDerivAt (αc * S[j].logp) S[j].qpis k hk hno_tie)
    ((getD_getElem_map_range _ _ S j _ hk).trans
      (by simp only [one_real, zero_real, ofNat_real, ite_div, neg_div, zero_div]))

/-- two critics that disagree on a sample: critic 0 is the strict arg-min -/
example : ∀ i (hi : i < [(1 : ℝ), 2].length), i ≠ 0 → [(1 : ℝ), 2][0] < [(1 : ℝ), 2][i] := by
  intro i hi h
  match i, hi, h with
  | 0, _, h => exact absurd rfl h
  | 1, _, _ => exact one_lt_two

/-- **SAC temperature.**  `sacAlphaCot = -mean (logπ + H̄)` is the derivative of
`-mean (log α · (logπ + H̄))` with respect to `log α` (log-probabilities detached). -/
theorem sac_alpha_hasDerivAt (H : ℝ) (lps : List ℝ) (logα : ℝ) :
    HasDerivAt (sacAlphaLoss H lps) (sacAlphaCot H lps) logα :=
  hasDerivAt_of_eq ((hasDerivAt_id' logα).mul_const (sacAlphaCot H lps)) (sacAlphaLoss_eq H lps) (one_mul _).symm

/-! ### TD3 / DDPG -/

/-- **TD3 actor**: `-1/B` for `-mean Q_1(s, π(s))`. -/
theorem td3_actor_hasDerivAt (q1s : List ℝ) (j : ℕ) (hj : j < q1s.length) :
    HasDerivAt (fun x => td3ActorLoss (q1s.set j x)) ((td3ActorCot q1s)[j]'(by simpa using hj)) q1s[j] := by
  exact hasDerivAt_of_eq
    (hasDerivAt_meanMap_set (fun q : ℝ => q) q1s j hj (fun x => x) (hasDerivAt_id' q1s[j]) rfl).fun_neg
    (fun _ => rfl) ((List.getElem_map _).trans (by rw [one_real]; rfl))

/-- The smoothed target action stays in the action box and its noise within `±c`. -/
theorem td3_next_action_bounded (c π n : ℝ) (hc : 0 ≤ c) :
    -1 ≤ td3NextAction c π n ∧ td3NextAction c π n ≤ 1 ∧ |clamp (-c) c n| ≤ c := by
  rw [td3NextAction_real, clamp_real]
  exact ⟨le_min (le_max_right _ _) (by norm_num), min_le_right _ _,
    abs_le.mpr ⟨le_min (le_max_right _ _) (neg_le_self hc), min_le_right _ _⟩⟩

/-- DDPG (`target_noise_clip = 0`): no smoothing, the target action is the target actor's, clamped. -/
theorem ddpg_next_action (π n : ℝ) : td3NextAction 0 π n = clamp (-1) 1 π := by
  rw [td3NextAction_real, clamp_real]
  have : min (max n (-0 : ℝ)) 0 = 0 := by
    rw [neg_zero]; exact min_eq_right (le_max_right _ _)
  rw [this, add_zero]

/-- The actor is updated exactly on the gradient steps whose running count is a multiple of `policy_delay`. -/
theorem td3_actor_due_iff (n delay : ℕ) : td3ActorDue n delay = true ↔ delay ∣ n := by
  simp [td3ActorDue, Nat.dvd_iff_mod_eq_zero]

/-- DDPG (`policy_delay = 1`) updates it on every step. -/
theorem ddpg_actor_always_due (n : ℕ) : td3ActorDue n 1 = true := by
  simp [td3ActorDue, Nat.mod_one]

/-! ### gradient-norm clipping -/

/-- `‖clip g‖ ≤ max_norm`, for `max_norm ≥ 0` -/
theorem clip_norm_le (m : ℝ) (hm : 0 ≤ m) (g : List ℝ) : l2norm (clipGradNorm m g) ≤ m := by
  have hn := l2norm_nonneg g
  have hpos : 0 < l2norm g + 1 / 1000000 := add_pos_of_nonneg_of_pos hn eps6_pos
  rw [clipGradNorm_eq, l2norm_map_mul _ (clipCoef_nonneg m _ hm hn), clipCoef_real]
  -- `c·n ≤ c·(n + 1e-6) ≤ m` for the coefficient `c ≤ m / (n + 1e-6)`
  exact (mul_le_mul_of_nonneg_left (le_add_of_nonneg_right eps6_pos.le)
    (le_min zero_le_one (div_nonneg hm hpos.le))).trans ((le_div_iff₀ hpos).mp (min_le_right _ _))

/-- clipping is a rescaling by one factor in `[0, 1]` (the direction of the gradient is kept) -/
theorem clip_norm_parallel (m : ℝ) (hm : 0 ≤ m) (g : List ℝ) :
    ∃ c : ℝ, 0 ≤ c ∧ c ≤ 1 ∧ clipGradNorm m g = g.map fun x => x * c :=
  ⟨clipCoef m (l2norm g), clipCoef_nonneg m _ hm (l2norm_nonneg g), clipCoef_le_one m _, rfl⟩

/-- a gradient within the bound is not changed -/
theorem clip_id_of_small (m : ℝ) (g : List ℝ) (h : l2norm g + 1 / 1000000 ≤ m) : clipGradNorm m g = g :=
  SB3Verif.Lemmas.Objective.clip_id_of_small m g h

example : l2norm [(3 : ℝ) / 10, 4 / 10] + 1 / 1000000 ≤ 1 := by
  rw [l2norm_real]
  -- the norm is `√(1/4) ≤ 1/2`
  exact (add_le_add_left (Real.sqrt_le_iff.mpr ⟨by norm_num, by norm_num⟩) _).trans
    (by norm_num : (1 / 2 : ℝ) + 1 / 1000000 ≤ 1)

/-! ### learning-rate schedule -/

/-- the progress handed to the schedule is in `[0, 1]`, `1` at the start and `0` from `total_timesteps` on -/
theorem progress_remaining_bounds (num total : ℕ) (ht : 0 < total) :
    0 ≤ (progressRemaining num total : ℝ) ∧ (progressRemaining num total : ℝ) ≤ 1
    ∧ (progressRemaining 0 total : ℝ) = 1
    ∧ (total ≤ num → (progressRemaining num total : ℝ) = 0) := by
  have hT : (0 : ℝ) < total := Nat.cast_pos.mpr ht
  rw [progressRemaining_real, progressRemaining_real]
  refine ⟨le_max_right _ _, max_le (sub_le_self 1 (div_nonneg (Nat.cast_nonneg num) hT.le)) zero_le_one, ?_,
    fun h => max_eq_right (sub_nonpos.mpr ((one_le_div hT).mpr (Nat.cast_le.mpr h)))⟩
  rw [Nat.cast_zero, zero_div, sub_zero, max_eq_left zero_le_one]

/-- a linear schedule stays between `0` and its initial value for a progress in `[0, 1]`; a constant one is its value -/
theorem lr_linear_bounds (lr0 p : ℝ) (h0 : 0 ≤ lr0) (hp0 : 0 ≤ p) (hp1 : p ≤ 1) :
    0 ≤ lrAt (.linear lr0) p ∧ lrAt (.linear lr0) p ≤ lr0 ∧ lrAt (.const lr0) p = lr0 := by
  exact ⟨mul_nonneg hp0 h0, mul_le_of_le_one_left h0 hp1, rfl⟩

end SB3Verif.C07
