/-
C18 — Episode statistics from Monitor, VecMonitor and evaluate_policy are exact.

All statements are about the executable model `SB3Verif/Model/Monitor.lean`, whose definitions the
driver `SB3Verif/Driver/C18.lean` runs against the real `Monitor`, `VecMonitor`, `load_results` and
`evaluate_policy`.

Vocabulary (defined in the model):
* `Call`            what the wrapped environment receives: `reset` or `step r done`;
* `openSeg calls`   the rewards of the episode running at the end of a history: the longest suffix of
                    non-final steps (it starts after the last `reset` or episode end);
* `pySum`           Python's `sum` / repeated `+=` (left fold from `0`);
* `Mon.trace`       the calls that actually reach the env wrapped by a `Monitor` (rejected calls do not);
* `vtrace i`, `colCalls i`   the history of sub-environment `i` of a vectorised run;
* `evalSpec`        the closed-form description of `evaluate_policy`'s result (no counters, no loop).
-/
import SB3Verif.Lemmas.Monitor

namespace SB3Verif.C18

open SB3Verif.Monitor SB3Verif.Lemmas.Mon

variable {α : Type}

/-- **Monitor reports exactly the episode that ended** — for every history of `step`/`reset` calls
(early resets, resets in a row, steps after the end, calls rejected for any reason — "before done",
"needs reset", a missing `reset_keywords` entry —, both settings of `allow_early_resets`, any
`info_keywords` / `reset_keywords`), without any hypothesis: whenever call `k` returns an `episode`
entry, that call is a `step` that ended an episode, the reported return is `rnd` (`round(·, 6)`) of the sum of exactly
the rewards the wrapped environment handed out since it was last reset, and the reported length is their
number. -/
theorem monitor_episode_exact [Add α] [Zero α] (cfg : MonCfg) (rnd : α → α) (ops : List (Op α)) (k : ℕ)
    (ep : EpInfo α) (hk : (Mon.run cfg rnd Mon.init ops).2[k]? = some (Out.stepOk (some ep))) :
    ∃ r te tr info, ops[k]? = some (Op.step r te tr info) ∧ (te || tr) = true ∧
      ep.r = rnd (pySum (openSeg (Mon.trace cfg rnd Mon.init (ops.take k)) ++ [r])) ∧
      ep.l = (openSeg (Mon.trace cfg rnd Mon.init (ops.take k))).length + 1 := by
  rw [outs_getElem?] at hk
  obtain ⟨op, hop, hout⟩ := Option.map_eq_some_iff.mp hk
  obtain ⟨r, te, tr, info, rfl, hnr, hd, hr, hl⟩ := step_emits cfg rnd hout
  -- before call `k` the monitor holds the rewards of the running episode
  have hrew := (inv_run cfg rnd (ops.take k) (inv_init cfg)).rewards hnr
  rw [List.nil_append] at hrew
  exact ⟨r, te, tr, info, hop, hd, hrew ▸ hr, hrew ▸ hl⟩

/-- A `reset()` rejected for a missing keyword leaves the running episode intact (the history that
exposed F-C18-a: `reset(k=1)`, `step` (reward 1), `reset()` → ValueError, `step` (reward 2, final)): the
environment saw one episode of two steps with return 3, and that is what is reported. -/
theorem monitor_rejected_reset_keeps_episode :
    ((Mon.run cexCfg id Mon.init cexOps).2.filterMap Out.ep?).map (fun e => (e.r, e.l)) = [((3 : Int), 2)] ∧
    (Mon.run cexCfg id Mon.init cexOps).2[2]? = some Out.errMissingKw ∧
    Mon.trace cexCfg id Mon.init cexOps = [.reset, .step 1 false, .step 2 true] := by
  decide

/-- Remark on the OLD statement order of `Monitor.reset` (before /repo commit 43bb017, modelled by
`Lemmas.Mon.stepOld`: `rewards`/`needs_reset` cleared before the keyword check): on the same history it
reports return 2, length 1 — the order of the statements is what the theorem above depends on. -/
theorem monitor_old_reset_order_wrong :
    ((runOld cexCfg id Mon.init cexOps).2.filterMap Out.ep?).map (fun e => (e.r, e.l)) = [((2 : Int), 1)] := by
  decide

/-- **An `episode` entry is present exactly at episode ends**: a `step` call is either rejected
("needs reset") or answered with an info whose `episode` key is present iff the wrapped environment
reported `terminated or truncated` (given it supplies the `info_keywords`). -/
theorem monitor_episode_presence [Add α] [Zero α] (cfg : MonCfg) (rnd : α → α) (ops : List (Op α)) (k : ℕ)
    (r : α) (te tr : Bool) (info : KV) (hop : ops[k]? = some (Op.step r te tr info))
    (hinfo : (Op.step r te tr info).infoOk cfg = true) :
    (Mon.run cfg rnd Mon.init ops).2[k]? = some Out.errNeedsReset ∨
    ∃ ep, (Mon.run cfg rnd Mon.init ops).2[k]? = some (Out.stepOk ep) ∧ ep.isSome = (te || tr) := by
  rw [outs_getElem?, hop]
  rcases step_presence cfg rnd (Mon.run cfg rnd Mon.init (ops.take k)).1 hinfo with h | ⟨ep, h, he⟩
  · exact Or.inl (congrArg some h)
  · exact Or.inr ⟨ep, congrArg some h, he⟩

/-- **The wrapped environment's protocol is respected**: the first call that reaches it is a `reset`;
a step that ended an episode is always followed by a `reset` (the env is never stepped when finished —
this is what makes `openSeg` "the episode that ended"); and with `allow_early_resets=False` a `reset`
only ever follows an episode end. For every history, no hypotheses. -/
theorem monitor_protocol [Add α] [Zero α] (cfg : MonCfg) (rnd : α → α) (ops : List (Op α)) :
    (∀ c ∈ (Mon.trace cfg rnd Mon.init ops).head?, c = Call.reset) ∧
    (Mon.trace cfg rnd Mon.init ops).IsChain (fun a b => a.isDone = true → b = Call.reset) ∧
    (cfg.allowEarly = false →
      (Mon.trace cfg rnd Mon.init ops).IsChain (fun a b => b = Call.reset → a.isDone = true)) :=
  protocol cfg rnd ops

/-- **Rows are written in order**: the rows handed to the `ResultsWriter`, `episode_lengths` and
(rounded) `episode_returns` are exactly the `episode` entries returned, in the order they were returned
— for every history, without hypotheses. -/
theorem monitor_rows_in_order [Add α] [Zero α] (cfg : MonCfg) (rnd : α → α) (ops : List (Op α)) :
    (Mon.run cfg rnd Mon.init ops).1.rows = (Mon.run cfg rnd Mon.init ops).2.filterMap Out.ep? ∧
    (Mon.run cfg rnd Mon.init ops).1.lengths = ((Mon.run cfg rnd Mon.init ops).2.filterMap Out.ep?).map (·.l) ∧
    (Mon.run cfg rnd Mon.init ops).1.returns.map rnd = ((Mon.run cfg rnd Mon.init ops).2.filterMap Out.ep?).map (·.r) :=
  run_rows cfg rnd (Mon.init : Mon α) ops

/-- Python's left-to-right accumulation is the mathematical sum in every additive monoid. -/
theorem pySum_is_sum {β : Type} [AddMonoid β] (l : List β) : pySum l = l.sum := List.sum_eq_foldl.symm

/-- **VecMonitor reports exactly the episode that ended, per sub-environment** — for every sequence of
`reset()` and vectorised steps, every env `i < n` and every step `k`: the `episode` entry of env `i` is
present iff `dones[i]`, and then holds the sum and the number of the rewards env `i` produced since
the last `reset()` or its last episode end (mid-run `reset()` discards the partial episode of every
env). -/
theorem vecmonitor_episode_exact [Add α] [Zero α] (n : ℕ) (keys : List String) (ops : List (VOp α)) (k i : ℕ)
    (hi : i < n) (row : List (Raw α)) (hop : ops[k]? = some (VOp.step row)) :
    (((VecMon.run n keys (VecMon.init n) ops).2[k]?).getD []).getD i none =
      if (row.getD i ⟨0, false, []⟩).done then
        some { r := pySum (openSeg (vtrace i (ops.take k)) ++ [(row.getD i ⟨0, false, []⟩).rew]),
               l := (openSeg (vtrace i (ops.take k))).length + 1,
               extra := (infoExtra keys (row.getD i ⟨0, false, []⟩).info []).getD [] }
      else none := by
  have hinv := vinv_run n keys (ops.take k) (vinv_init n)
  rw [List.nil_append] at hinv
  rw [vouts_getElem?, hop]
  obtain ⟨_, _, hepisode⟩ := vstep_spec n keys hinv row hi rfl
  exact hepisode

/-- The file rows of a `VecMonitor` are the `episode` entries in order (step by step, env by env), and
`episode_count` counts them. -/
theorem vecmonitor_rows_in_order [Add α] [Zero α] (n : ℕ) (keys : List String) (ops : List (VOp α)) :
    (VecMon.run n keys (VecMon.init n) ops).1.rows =
      (VecMon.run n keys (VecMon.init n) ops).2.flatMap (fun o => o.filterMap id) ∧
    (VecMon.run n keys (VecMon.init n) ops).1.count =
      ((VecMon.run n keys (VecMon.init n) ops).2.flatMap (fun o => o.filterMap id)).length :=
  ⟨(vrun_rows n keys (VecMon.init n) ops).1, (vrun_rows n keys (VecMon.init n) ops).2.trans (Nat.zero_add _)⟩

/-- **The quotas add up**: `Σ_{i<n} (N+i)/n = N` for every `N ≥ 0`, `n ≥ 1` (also `N < n`). -/
theorem targets_sum (N n : ℕ) (hn : 0 < n) : (targets N n).sum = N := Lemmas.Mon.targets_sum N n hn

/-- **As evenly as possible**: every quota is `⌊N/n⌋` or `⌊N/n⌋ + 1`; exactly the last `N mod n`
environments get the extra episode. -/
theorem targets_balanced (N n i : ℕ) (hi : i < n) :
    (targets N n).getD i 0 = N / n + (if n - N % n ≤ i then 1 else 0) := Lemmas.Mon.targets_balanced N n i hi

theorem targets_length (N n : ℕ) : (targets N n).length = n := by simp [targets]

/-- **Exactly `n_eval_episodes` episodes**: whatever the environments answer (any episode lengths,
with or without monitor, `episode` keys present or not), if the loop terminates within the given
answers then the returned lists have exactly `N` entries. -/
theorem evaluate_returns_exactly_N [Add α] [Zero α] (mon : Bool) (N n : ℕ) (hn : 0 < n)
    (rows : List (List (StepOut α)))
    (hfin : (evaluate mon N n rows).finished n (targets N n) = true) : (evaluate mon N n rows).out.length = N := by
  have hcount := countInv_loop mon rows (countInv_init n (targets N n))
  simp only [EvalSt.finished, active, Bool.not_eq_true', List.any_eq_false, List.mem_range, decide_eq_true_eq] at hfin
  -- no counter exceeds its quota and none is below it: the counters are the quotas
  have : (List.range n).map (fun i => ((evaluate mon N n rows).envs.getD i ⟨0, 0, 0⟩).count) = targets N n :=
    List.map_congr_left fun i hi => Nat.le_antisymm
      (targets_getD N (List.mem_range.mp hi) ▸ hcount.le i (List.mem_range.mp hi))
      (targets_getD N (List.mem_range.mp hi) ▸ Nat.le_of_not_lt (hfin i (List.mem_range.mp hi)))
  exact hcount.out.trans ((congrArg List.sum this).trans (Lemmas.Mon.targets_sum N n hn))

/-- **Which episodes, with which values** (no monitor): for every table of raw environment answers
(unequal episode lengths, any `N`, `n`), the returned list is, step by step and env by env, the episode
that ends at that step in that env — its true reward sum and length since the env's previous episode
end — provided fewer than `targets i` episodes of env `i` ended before. Hence each env contributes its
first `targets i` complete episodes and nothing else; steps of envs that met their quota never
contribute. -/
theorem evaluate_returns_quota [Add α] [Zero α] (N n : ℕ) (rows : List (List (Raw α))) :
    (evaluate false N n (plainRows n rows)).out = evalSpec n (targets N n) rows :=
  (evaluate_of_sees N (sees_plain id n [] rows)).trans (List.map_id'' (fun _ => rfl) _)

/-- The same result when the environments are seen through a `VecMonitor` (statistics taken from
`info["episode"]`): `VecMonitor` + `evaluate_policy` composed. -/
theorem evaluate_with_vecmonitor [Add α] [Zero α] (N n : ℕ) (rows : List (List (Raw α))) :
    (evaluate true N n (throughVecMon n (VecMon.init n) rows)).out = evalSpec n (targets N n) rows :=
  (evaluate_of_sees N (sees_vecmon [] rows (vinv_init n))).trans (List.map_id'' (fun _ => rfl) _)

/-- The same result, up to the monitors' rounding `rnd` of the returns (`round(·, 6)` in the code; any function
here), for a `DummyVecEnv` of `Monitor`-wrapped environments (no `reset_keywords`: the automatic reset passes
none), given that every environment supplies the `info_keywords` in the info of its episode-ending steps. -/
theorem evaluate_with_monitor [Add α] [Zero α] (cfg : MonCfg) (rnd : α → α) (hk : cfg.resetKeys = [])
    (N n : ℕ) (rows : List (List (Raw α)))
    (hinfo : ∀ row ∈ rows, ∀ i, i < n → (row.getD i ⟨0, false, []⟩).done = true →
      cfg.infoKeys.all (fun k => (kvGet (row.getD i ⟨0, false, []⟩).info k).isSome) = true) :
    (evaluate true N n (throughMonitors cfg rnd n (List.replicate n (Mon.fresh cfg rnd)) rows)).out =
      (evalSpec n (targets N n) rows).map (fun p => (rnd p.1, p.2)) :=
  evaluate_of_sees N (sees_monitors cfg rnd hk n _ [] rows
    (fun _ hi => (replicate_getD hi).symm ▸ minv_fresh cfg rnd hk) hinfo)

/-- **The loop stops when and only when every env reached its quota**: it never takes more steps than
answers available; every step it takes is needed (before it some env is below its quota); it is
finished iff after its last step every env has completed at least `targets i` episodes; and it stops
before the answers run out only when finished. (`dones` counts episode ends.) -/
theorem evaluate_stops_exactly [Add α] [Zero α] (N n : ℕ) (rows : List (List (Raw α))) :
    (evaluate false N n (plainRows n rows)).steps ≤ rows.length ∧
    (∀ j, j < (evaluate false N n (plainRows n rows)).steps →
      ∃ i, i < n ∧ dones (colCalls i (rows.take j)) < (targets N n).getD i 0) ∧
    ((evaluate false N n (plainRows n rows)).finished n (targets N n) = true ↔
      ∀ i, i < n → (targets N n).getD i 0 ≤
        dones (colCalls i (rows.take (evaluate false N n (plainRows n rows)).steps))) ∧
    ((evaluate false N n (plainRows n rows)).steps < rows.length →
      (evaluate false N n (plainRows n rows)).finished n (targets N n) = true) := by
  obtain ⟨k, hk, hinv, hstop, hneed⟩ := loop_steps (linv_init false id n (targets N n)) (sees_plain id n [] rows)
  replace hinv : LInv false id n (targets N n) (evaluate false N n (plainRows n rows)) (rows.take k) := hinv
  -- the loop has taken `k` steps
  rw [hinv.steps.trans ((List.length_take ..).trans (Nat.min_eq_left hk)), EvalSt.finished, Bool.not_eq_true',
    ← Bool.not_eq_true, active_iff hinv]
  -- `finished` now reads "no env is below its quota", which is the right-hand side of the third claim
  simp only [not_exists, not_and, Nat.not_lt, iff_self, true_and]
  exact ⟨hk, hneed, hstop⟩

/-- **Each environment's share**: the number of steps of env `i` that contribute to the result is
exactly `min (targets i) (number of episodes env i completed)` — together with `evaluate_returns_quota`
(a step contributes only while fewer than `targets i` episodes ended before it): env `i` contributes its
*first* `targets i` completed episodes, all of them, and no others. -/
theorem evaluate_env_share [Add α] [Zero α] (tg i : ℕ) (rows : List (List (Raw α))) :
    contributions tg (colCalls i rows) = min tg (dones (colCalls i rows)) :=
  contributions_eq tg (colCalls i rows)

/-- **Read back in the order of the time stamps**: if the rows of all monitor files of a directory,
with their absolute times `t + t_start`, are a rearrangement of a list of events whose times are
strictly increasing, `load_results` returns exactly those events in that order (times re-based on the
earliest `t_start`) — whatever the file order and however the events are spread over the files.
The hypothesis holds when every file was written by one session against a strictly increasing clock;
it is what an appended session breaks (next theorem). -/
theorem load_results_in_order_partial {β : Type} (files : List (MFile β)) (events : List (Rat × β))
    (hsorted : events.Pairwise (fun a b => a.1 < b.1)) (hperm : (absRows files).Perm events) :
    loadResults files = events.map (fun p => (p.1 - minStart files, p.2)) := by
  unfold loadResults
  congr 1
  have hle : events.Pairwise (fun a b => decide (a.1 ≤ b.1) = true) :=
    hsorted.imp (fun h => by simpa using le_of_lt h)
  have hms := List.pairwise_mergeSort (le := fun (a b : Rat × β) => decide (a.1 ≤ b.1))
    (fun a b c h1 h2 => by simp only [decide_eq_true_eq] at *; exact le_trans h1 h2)
    (fun a b => by simp only [Bool.or_eq_true, decide_eq_true_eq]; exact le_total a.1 b.1) (absRows files)
  have hp : ((absRows files).mergeSort fun a b => decide (a.1 ≤ b.1)).Perm events :=
    (List.mergeSort_perm _ _).trans hperm
  -- two sorted arrangements of the same elements agree, the times being pairwise different
  refine List.Perm.eq_of_pairwise (le := fun (a b : Rat × β) => decide (a.1 ≤ b.1)) ?_ hms hle hp
  intro a b ha hb h1 h2
  simp only [decide_eq_true_eq] at h1 h2
  -- an event is itself; events at different positions have different times
  exact List.Pairwise.forall_of_forall_of_flip (R := fun a b : Rat × β => a.1 = b.1 → a = b) (fun _ _ _ => rfl)
    (hsorted.imp fun h e => absurd e h.ne) (hsorted.imp fun h e => absurd e.symm h.ne) (hp.subset ha) hb
    (le_antisymm h1 h2)

/-- One file whose `t` column is strictly increasing is read back in file order. -/
theorem load_results_single_file_partial {β : Type} (f : MFile β) (hmono : f.rows.Pairwise (fun a b => a.1 < b.1)) :
    (loadResults [f]).map (·.2) = f.rows.map (·.2) := by
  have hsorted : (f.rows.map fun p => (p.1 + f.tStart, p.2)).Pairwise (fun a b => a.1 < b.1) :=
    List.pairwise_map.mpr (hmono.imp fun h => add_lt_add_left h _)
  rw [load_results_in_order_partial [f] _ hsorted (List.Perm.of_eq (List.flatMap_singleton _ f)),
    List.map_map, List.map_map]
  simp only [Function.comp_def]

/-- **Appended sessions are read back out of order** (finding K-C18-b): a file continued with
`override_existing=False` keeps the first header; the new rows' `t` is relative to the *new* start.
Rows written in the order 0, 1, 2 are returned as 2, 0, 1. -/
theorem load_results_in_order_counterexample : (loadResults [cexFile]).map (·.2) = [2, 0, 1] ∧
    cexFile.rows.map (·.2) = [0, 1, 2] := by
  refine ⟨?_, rfl⟩
  -- sorted by absolute time, the row of the second session (`1/2 + 1000`) comes first
  rw [load_results_in_order_partial [cexFile] [(1 / 2 + 1000, 2), (1 + 1000, 0), (3 + 1000, 1)]
    (by simp only [List.pairwise_cons, List.mem_cons, List.not_mem_nil, or_false, forall_eq_or_imp, forall_eq,
          List.Pairwise.nil, and_true, IsEmpty.forall_iff, implies_true]
        norm_num)
    (List.perm_middle (l₁ := [(1 + 1000, 0), (3 + 1000, 1)]) (l₂ := []))]
  rfl

/-- `round(x, 6)` does not change a value that has at most six decimals … -/
theorem round6_exact (q : Rat) (z : Int) (h : q * 1000000 = z) : round6 q = q :=
  roundScale_exact 1000000 (by norm_num) q z h

/-- … in particular any multiple of `1/64` (the rewards of the exact correspondence stream) … -/
theorem round6_dyadic64 (k : Int) : round6 ((k : Rat) / 64) = (k : Rat) / 64 := by
  apply round6_exact _ (k * 15625)
  push_cast
  ring

/-- … and never moves a value by more than half a unit of the sixth decimal. -/
theorem round6_error (q : Rat) : |round6 q - q| ≤ 1 / 2000000 :=
  (roundScale_err 1000000 (by norm_num) q).trans (by norm_num)

/-! ## Non-vacuity: the hypotheses above are met by concrete non-trivial data -/

/-- a history with an early reset, a reset rejected for a missing keyword, a rejected step and two completed
episodes (hypothesis `hk` of `monitor_episode_exact` is met at calls 5 and 8) -/
example : ((Mon.run ⟨true, [], ["a"]⟩ id Mon.init ([.reset [("a", 5)], .step 1 false false [], .reset [("a", 6)],
    .step 2 false false [], .reset [], .step 3 true false [], .step 9 false false [], .reset [("a", 7)],
    .step 4 false true []] : List (Op Int))).2.filterMap Out.ep?).map (fun e => (e.r, e.l)) = [(5, 2), (4, 1)] := by
  decide

/-- `hinfo` of `monitor_episode_presence` -/
example : (Op.step (1 : Int) true false [("tag", 3)]).infoOk ⟨true, ["tag"], []⟩ = true := by decide

/-- `evaluate` terminates on a concrete table with unequal episode lengths and `N` not a multiple of `n` -/
example : (evaluate false 3 2 (plainRows 2 ([[⟨1, false, []⟩, ⟨10, true, []⟩], [⟨2, true, []⟩, ⟨20, true, []⟩],
    [⟨3, false, []⟩, ⟨30, true, []⟩]] : List (List (Raw Int))))).finished 2 (targets 3 2) = true := by decide

example : (evaluate false 3 2 (plainRows 2 ([[⟨1, false, []⟩, ⟨10, true, []⟩], [⟨2, true, []⟩, ⟨20, true, []⟩],
    [⟨3, false, []⟩, ⟨30, true, []⟩]] : List (List (Raw Int))))).out = [(10, 1), (3, 2), (20, 1)] := by decide

example : evalSpec 2 (targets 3 2) ([[⟨1, false, []⟩, ⟨10, true, []⟩], [⟨2, true, []⟩, ⟨20, true, []⟩],
    [⟨3, false, []⟩, ⟨30, true, []⟩]] : List (List (Raw Int))) = [(10, 1), (3, 2), (20, 1)] := by decide

/-- `hinfo` of `evaluate_with_monitor` -/
example : ∀ row ∈ ([[⟨1, true, [("tag", 1)]⟩]] : List (List (Raw Int))), ∀ i, i < 1 →
    (row.getD i ⟨0, false, []⟩).done = true →
    (["tag"].all fun k => (kvGet (row.getD i ⟨0, false, []⟩).info k).isSome) = true := by decide

/-- hypotheses of `load_results_in_order_partial`: two files, interleaved events -/
example : ([((1001 : Rat), 0), (1002, 1), (1003, 2)] : List (Rat × Nat)).Pairwise (fun a b => a.1 < b.1) := by
  simp only [List.pairwise_cons, List.mem_cons, List.not_mem_nil, or_false, forall_eq_or_imp, forall_eq,
    List.Pairwise.nil, and_true, IsEmpty.forall_iff, implies_true]
  norm_num

example : (absRows ([⟨1000, [(1, 0), (3, 2)]⟩, ⟨1001, [(1, 1)]⟩] : List (MFile Nat))).Perm
    [(1 + 1000, 0), (1 + 1001, 1), (3 + 1000, 2)] := by
  have : absRows ([⟨1000, [(1, 0), (3, 2)]⟩, ⟨1001, [(1, 1)]⟩] : List (MFile Nat)) =
      [(1 + 1000, 0), (3 + 1000, 2), (1 + 1001, 1)] := by simp [absRows]
  rw [this]
  exact List.Perm.cons _ (List.Perm.swap _ _ _)

/-- `hmono` of `load_results_single_file_partial` -/
example : ([((1 : Rat), 0), (3, 1), (7 / 2, 2)] : List (Rat × Nat)).Pairwise (fun a b => a.1 < b.1) := by
  simp only [List.pairwise_cons, List.mem_cons, List.not_mem_nil, or_false, forall_eq_or_imp, forall_eq,
    List.Pairwise.nil, and_true, IsEmpty.forall_iff, implies_true]
  norm_num

/-- `VecMonitor` on two envs with a mid-run `reset()`: env 0's partial episode (reward 1) is discarded -/
example : (VecMon.run 2 [] (VecMon.init 2) ([.reset, .step [⟨1, false, []⟩, ⟨10, true, []⟩], .reset,
    .step [⟨2, false, []⟩, ⟨20, false, []⟩], .step [⟨3, true, []⟩, ⟨30, true, []⟩]] : List (VOp Int))).2.map
      (fun o => o.map (fun e => e.map (fun x => (x.r, x.l)))) =
    [[], [none, some (10, 1)], [], [none, none], [some (5, 2), some (50, 2)]] := by decide

/-- hypothesis of `round6_exact` -/
example : ((1 : Rat) / 64) * 1000000 = ((15625 : Int) : Rat) := by norm_num

example : contributions 2 (colCalls 0 ([[⟨1, true, []⟩], [⟨2, true, []⟩], [⟨3, true, []⟩]] : List (List (Raw Int)))) = 2 := by
  decide

example : targets 10 4 = [2, 2, 3, 3] := by decide
example : targets 2 5 = [0, 0, 0, 1, 1] := by decide

end SB3Verif.C18
