/-
Helper lemmas for C09 about the model `SB3Verif/Model/SaveLoad.lean`.
Every loop of the model that fills a dictionary is a `dictUpdate` (`foldl_dictSet`), and a `dictUpdate` with new,
pairwise different keys appends (`dictUpdate_fresh`); on this the codec round trip (`roundTrip_eq`) and
`load ∘ save` (`load_save`) rest.
-/
import SB3Verif.Model.SaveLoad

namespace SB3Verif.SaveLoad.Lemmas
open SB3Verif.SaveLoad

theorem nodupB_iff (l : List String) : nodupB l = true ↔ l.Nodup := by
  induction l with
  | nil => simp [nodupB]
  | cons x xs ih => simp [nodupB, ih, List.nodup_cons]

theorem dictGet_eq_none_iff {β : Type} (d : List (String × β)) (k : String) :
    dictGet d k = none ↔ k ∉ d.map (·.1) := by
  induction d with
  | nil => simp [dictGet]
  | cons a r ih =>
    simp only [dictGet, List.map_cons, List.mem_cons, not_or, ← ih]
    split
    · next h => simp [h]
    · next h => simp [Ne.symm h]

theorem dictUpdate_nil {β : Type} (d : List (String × β)) : dictUpdate d [] = d := rfl

section dict
variable {β : Type} {d items : List (String × β)} {k k2 : String} {v : β}

theorem dictSet_of_not_mem (h : k ∉ d.map (·.1)) : dictSet d k v = d ++ [(k, v)] := by
  induction d with
  | nil => rfl
  | cons a r ih =>
    rw [List.map_cons, List.mem_cons, not_or] at h
    rw [dictSet, if_neg (Ne.symm h.1), ih h.2, List.cons_append]

theorem dictSet_keys_of_mem (h : k ∈ d.map (·.1)) : (dictSet d k v).map (·.1) = d.map (·.1) := by
  induction d with
  | nil => cases h
  | cons a r ih =>
    rw [dictSet]
    by_cases e : a.1 = k
    · rw [if_pos e]; rfl
    · rw [if_neg e, List.map_cons, ih ((List.mem_cons.mp h).resolve_left (Ne.symm e))]; rfl

theorem dictSet_keys_nodup (h : (d.map (·.1)).Nodup) : ((dictSet d k v).map (·.1)).Nodup := by
  by_cases hm : k ∈ d.map (·.1)
  · rw [dictSet_keys_of_mem hm]; exact h
  · rw [dictSet_of_not_mem hm, List.map_append, List.nodup_append]
    exact ⟨h, List.pairwise_singleton _ _, fun a ha b hb e => hm ((List.mem_singleton.mp hb : b = k) ▸ e ▸ ha)⟩

theorem mem_keys_dictSet : k2 ∈ (dictSet d k v).map (·.1) ↔ k2 = k ∨ k2 ∈ d.map (·.1) := by
  by_cases hm : k ∈ d.map (·.1)
  · rw [dictSet_keys_of_mem hm]
    exact ⟨Or.inr, fun h => h.elim (· ▸ hm) id⟩
  · rw [dictSet_of_not_mem hm, List.map_append, List.mem_append, List.map_singleton, List.mem_singleton, or_comm]

theorem mem_dictSet {kv : String × β} (h : kv ∈ dictSet d k v) : kv ∈ d ∨ kv = (k, v) := by
  induction d with
  | nil => exact Or.inr (List.mem_singleton.mp h)
  | cons a r ih =>
    rw [dictSet] at h
    by_cases e : a.1 = k
    · rw [if_pos e, List.mem_cons] at h
      exact h.elim (fun h => Or.inr (h.trans (e ▸ rfl))) (fun h => Or.inl (List.mem_cons_of_mem _ h))
    · rw [if_neg e, List.mem_cons] at h
      exact h.elim (fun h => Or.inl (h ▸ List.mem_cons_self)) fun h =>
        (ih h).imp_left (List.mem_cons_of_mem _)

theorem dictGet_dictSet : dictGet (dictSet d k v) k2 = if k = k2 then some v else dictGet d k2 := by
  induction d with
  | nil => rfl
  | cons a r ih =>
    obtain ⟨k', v'⟩ := a
    rw [dictSet]
    by_cases e : k' = k
    · subst e
      rw [if_pos rfl, dictGet, dictGet]
      split <;> rfl
    · rw [if_neg e, dictGet, dictGet, ih]
      by_cases e2 : k' = k2
      · rw [if_pos e2, if_pos e2, if_neg (e2 ▸ Ne.symm e)]
      · rw [if_neg e2, if_neg e2]

theorem dictHas_iff_mem : dictHas d k = true ↔ k ∈ d.map (·.1) := by
  rw [dictHas, Option.isSome_iff_ne_none, ne_eq, dictGet_eq_none_iff, Classical.not_not]

theorem dictGet_map_snd {γ : Type} (f : β → γ) :
    dictGet (d.map fun kv => (kv.1, f kv.2)) k = (dictGet d k).map f := by
  induction d with
  | nil => rfl
  | cons a r ih =>
    rw [List.map_cons, dictGet, dictGet, ih]
    split <;> rfl

theorem dictGet_filter_key (q : String → Bool) (h : q k = true) :
    dictGet (d.filter fun kv => q kv.1) k = dictGet d k := by
  induction d with
  | nil => rfl
  | cons a r ih =>
    obtain ⟨k0, v⟩ := a
    rw [List.filter_cons, dictGet]
    by_cases e : k0 = k
    · subst e; rw [if_pos h, dictGet, if_pos rfl, if_pos rfl]
    · rw [if_neg e]; split
      · rw [dictGet, if_neg e, ih]
      · exact ih

theorem filter_keys_nodup {p : String × β → Bool} (h : (d.map (·.1)).Nodup) : ((d.filter p).map (·.1)).Nodup :=
  (List.Sublist.map _ List.filter_sublist).nodup h

theorem dictUpdate_cons {kv : String × β} : dictUpdate d (kv :: items) = dictUpdate (dictSet d kv.1 kv.2) items := rfl

/-- every loop of the model that assigns computed keys and values one after the other is a `dictUpdate` -/
theorem foldl_dictSet {α : Type} {f : α → String} {g : α → β} {l : List α} :
    l.foldl (fun acc a => dictSet acc (f a) (g a)) d = dictUpdate d (l.map fun a => (f a, g a)) :=
  by rw [dictUpdate, List.foldl_map]

theorem dictUpdate_keys_nodup (h : (d.map (·.1)).Nodup) : ((dictUpdate d items).map (·.1)).Nodup := by
  induction items generalizing d with
  | nil => exact h
  | cons a r ih => exact ih (dictSet_keys_nodup h)

theorem dictUpdate_forall (P : β → Prop) (hd : ∀ kv ∈ d, P kv.2) (hi : ∀ kv ∈ items, P kv.2) :
    ∀ kv ∈ dictUpdate d items, P kv.2 := by
  induction items generalizing d with
  | nil => exact hd
  | cons a r ih =>
    refine ih (fun kv hkv => ?_) fun kv hkv => hi kv (List.mem_cons_of_mem _ hkv)
    rcases mem_dictSet hkv with h | h
    · exact hd kv h
    · exact h ▸ hi a List.mem_cons_self

theorem mem_keys_dictUpdate (h : k ∈ d.map (·.1) ∨ k ∈ items.map (·.1)) : k ∈ (dictUpdate d items).map (·.1) := by
  induction items generalizing d with
  | nil => exact h.resolve_right List.not_mem_nil
  | cons a r ih =>
    refine ih ?_
    rw [mem_keys_dictSet, List.map_cons, List.mem_cons] at *
    exact h.elim (fun h => Or.inl (Or.inr h)) (Or.imp_left Or.inl)

theorem dictGet_dictUpdate_not_mem (h : k ∉ items.map (·.1)) : dictGet (dictUpdate d items) k = dictGet d k := by
  induction items generalizing d with
  | nil => rfl
  | cons a r ih =>
    rw [List.map_cons, List.mem_cons, not_or] at h
    rw [dictUpdate_cons, ih h.2, dictGet_dictSet, if_neg (Ne.symm h.1)]

theorem dictGet_dictUpdate_mem (hn : (items.map (·.1)).Nodup) (h : dictGet items k = some v) :
    dictGet (dictUpdate d items) k = some v := by
  induction items generalizing d with
  | nil => cases h
  | cons a r ih =>
    obtain ⟨k0, v0⟩ := a
    have hn' := List.nodup_cons.mp hn
    rw [dictGet] at h
    by_cases e : k0 = k
    · subst e
      rw [if_pos rfl] at h
      rw [dictUpdate_cons, dictGet_dictUpdate_not_mem hn'.1, dictGet_dictSet, if_pos rfl, ← h]
    · rw [if_neg e] at h
      exact ih hn'.2 h

theorem dictUpdate_fresh (h : ((d ++ items).map (·.1)).Nodup) : dictUpdate d items = d ++ items := by
  induction items generalizing d with
  | nil => exact (List.append_nil d).symm
  | cons a r ih =>
    have hk : a.1 ∉ d.map (·.1) := fun hm =>
      (List.nodup_append.mp (List.map_append ▸ h)).2.2 a.1 hm a.1 List.mem_cons_self rfl
    rw [dictUpdate_cons, dictSet_of_not_mem hk, ih (by rwa [List.append_assoc]), List.append_assoc]; rfl

theorem dictUpdate_nil_fresh (h : (items.map (·.1)).Nodup) : dictUpdate [] items = items :=
  dictUpdate_fresh (d := []) h

theorem dictSet_same_value (h : dictGet d k = some v) : dictSet d k v = d := by
  induction d with
  | nil => cases h
  | cons a r ih =>
    obtain ⟨k0, v0⟩ := a
    rw [dictGet] at h
    rw [dictSet]
    by_cases e : k0 = k
    · rw [if_pos e] at h ⊢
      rw [Option.some.inj h]
    · rw [if_neg e] at h ⊢
      rw [ih h]

theorem dictUpdate_same_values (h : ∀ kv ∈ items, dictGet d kv.1 = some kv.2) : dictUpdate d items = d := by
  induction items with
  | nil => rfl
  | cons a r ih =>
    rw [dictUpdate_cons, dictSet_same_value (h a List.mem_cons_self)]
    exact ih fun kv hkv => h kv (List.mem_cons_of_mem _ hkv)

theorem dictHas_dictUpdate (h : dictHas d k = true) : dictHas (dictUpdate d items) k = true :=
  dictHas_iff_mem.mpr (mem_keys_dictUpdate (Or.inl (dictHas_iff_mem.mp h)))

/-- `if c: d[k] = v` -/
def setIf (c : Bool) (d : List (String × β)) (k : String) (v : β) : List (String × β) :=
  if c then dictSet d k v else d

theorem setIf_keys_nodup {c : Bool} (h : (d.map (·.1)).Nodup) : ((setIf c d k v).map (·.1)).Nodup := by
  cases c
  · exact h
  · exact dictSet_keys_nodup h

theorem dictGet_setIf {c : Bool} (h : c = true → k2 ≠ k) : dictGet (setIf c d k v) k2 = dictGet d k2 := by
  cases c
  · rfl
  · exact dictGet_dictSet.trans (if_neg (Ne.symm (h rfl)))

end dict

theorem dictHas_eq_false_iff {β : Type} (d : List (String × β)) (k : String) :
    dictHas d k = false ↔ k ∉ d.map (·.1) := by
  rw [← dictHas_iff_mem, Bool.not_eq_true]

/-! `jsonDumps`, `jsonLoads` and the functions defined with them are recursive through lists; their equations
hold by unfolding and are stated here once, in the form the proofs use. -/

theorem dumpsList_cons (E : Ext) (x : PyVal) (xs : List PyVal) (j : JVal) (js : List JVal)
    (h1 : jsonDumps E x = some j) (h2 : dumpsList E xs = some js) : dumpsList E (x :: xs) = some (j :: js) := by
  show (match jsonDumps E x, dumpsList E xs with
    | some j, some js => some (j :: js)
    | _, _ => none) = _
  rw [h1, h2]

theorem dumpsItems_cons (E : Ext) (k v : PyVal) (r : List (PyVal × PyVal)) (ks : String) (j : JVal)
    (js : List (String × JVal)) (h0 : jsonKey E k = some ks) (h1 : jsonDumps E v = some j)
    (h2 : dumpsItems E r = some js) : dumpsItems E ((k, v) :: r) = some ((ks, j) :: js) := by
  show (match jsonKey E k, jsonDumps E v, dumpsItems E r with
    | some ks, some j, some js => some ((ks, j) :: js)
    | _, _, _ => none) = _
  rw [h0, h1, h2]

theorem jsonDumps_dict (E : Ext) (kvs : List (PyVal × PyVal)) (js : List (String × JVal))
    (h : dumpsItems E kvs = some js) : jsonDumps E (.dict kvs) = some (.obj js) :=
  congrArg (Option.map JVal.obj) h

theorem jsonLoads_obj (kvs : List (String × JVal)) :
    jsonLoads (.obj kvs) = .dict (strDict (dictUpdate [] (loadsItems kvs))) := rfl

theorem loadsItems_cons (k : String) (j : JVal) (r : List (String × JVal)) :
    loadsItems ((k, j) :: r) = (k, jsonLoads j) :: loadsItems r := rfl

theorem strDict_keys (l : List (String × PyVal)) : strKeys (strDict l) = l.map (·.1) := by
  induction l with
  | nil => rfl
  | cons a r ih => exact congrArg (a.1 :: ·) ih

/-- By the recursion of `isNative`: a value, the items of a dictionary, the members of a list. -/
theorem native_rt_all (E : Ext) :
    (∀ v, isNative v = true → wfKeys v = true → ∃ j, jsonDumps E v = some j ∧ jsonLoads j = v) ∧
    (∀ kvs, allNativeItems kvs = true → wfKeysItems kvs = true →
      ∃ js, dumpsItems E kvs = some js ∧ strDict (loadsItems js) = kvs) ∧
    ∀ xs, allNative xs = true → wfKeysList xs = true → ∃ js, dumpsList E xs = some js ∧ loadsList js = xs := by
  refine isNative.mutual_induct _ _ _ ?_ ?_ ?_ ?_ ?_ ?_ ?_ ?_ ?_ ?_ ?_ ?_ ?_
  · exact fun _ _ => ⟨.null, rfl, rfl⟩
  · exact fun b _ _ => ⟨.bool b, rfl, rfl⟩
  · exact fun i _ _ => ⟨.int i, rfl, rfl⟩
  · exact fun b _ _ => ⟨.float b, rfl, rfl⟩
  · exact fun s _ _ => ⟨.str s, rfl, rfl⟩
  · intro xs ih hn hw
    obtain ⟨js, h1, h2⟩ := ih hn hw
    exact ⟨.arr js, congrArg (Option.map JVal.arr) h1, congrArg PyVal.list h2⟩
  · intro kvs ih hn hw
    have hw : nodupB (strKeys kvs) = true ∧ wfKeysItems kvs = true := Bool.and_eq_true_iff.mp hw
    obtain ⟨js, h1, h2⟩ := ih hn hw.2
    -- the keys read back are those of `kvs`, pairwise different, so reading assigns each once
    have hk : ((loadsItems js).map (·.1)).Nodup := by
      rw [← strDict_keys, h2]; exact (nodupB_iff _).mp hw.1
    exact ⟨.obj js, jsonDumps_dict E kvs js h1, by rw [jsonLoads_obj, dictUpdate_nil_fresh hk, h2]⟩
  · exact fun _ hn => nomatch hn
  · exact fun _ _ _ _ hn => nomatch hn
  · exact fun _ _ => ⟨[], rfl, rfl⟩
  · intro x xs ihx ihxs hn hw
    have hn : isNative x = true ∧ allNative xs = true := Bool.and_eq_true_iff.mp hn
    have hw : wfKeys x = true ∧ wfKeysList xs = true := Bool.and_eq_true_iff.mp hw
    obtain ⟨j, h1, h2⟩ := ihx hn.1 hw.1
    obtain ⟨js, h3, h4⟩ := ihxs hn.2 hw.2
    exact ⟨j :: js, dumpsList_cons E x xs j js h1 h3, by rw [← h2, ← h4]; rfl⟩
  · exact fun _ _ => ⟨[], rfl, rfl⟩
  · intro k v r ihv ihr hn hw
    cases k with
    | str s =>
      have hn : (true && isNative v) = true ∧ allNativeItems r = true := Bool.and_eq_true_iff.mp hn
      have hw : (true && wfKeys v) = true ∧ wfKeysItems r = true := Bool.and_eq_true_iff.mp hw
      obtain ⟨j, h1, h2⟩ := ihv hn.1 hw.1
      obtain ⟨js, h3, h4⟩ := ihr hn.2 hw.2
      exact ⟨(s, j) :: js, dumpsItems_cons E _ v r s j js rfl h1 h3, by rw [← h2, ← h4]; rfl⟩
    | _ => cases hn

theorem native_rt (E : Ext) (v : PyVal) : isNative v = true → wfKeys v = true →
    ∃ j, jsonDumps E v = some j ∧ jsonLoads j = v := (native_rt_all E).1 v
theorem native_rt_list (E : Ext) : ∀ (xs : List PyVal), allNative xs = true → wfKeysList xs = true →
    ∃ js, dumpsList E xs = some js ∧ loadsList js = xs := (native_rt_all E).2.2
theorem native_rt_items (E : Ext) : ∀ (kvs : List (PyVal × PyVal)), allNativeItems kvs = true →
    wfKeysItems kvs = true → ∃ js, dumpsItems E kvs = some js ∧ strDict (loadsItems js) = kvs :=
  (native_rt_all E).2.1

/-- `json.loads(json.dumps(v))` (`None` when `json.dumps` raises) -/
def reload (E : Ext) (v : PyVal) : PyVal := ((jsonDumps E v).map jsonLoads).getD .none

theorem reload_of_dumps {E : Ext} {v : PyVal} {j : JVal} (h : jsonDumps E v = some j) :
    reload E v = jsonLoads j := by
  rw [reload, h]; rfl

theorem map_snd_keys {β γ : Type} (f : β → γ) (l : List (String × β)) :
    (l.map fun kv => (kv.1, f kv.2)).map (·.1) = l.map (·.1) := by
  rw [List.map_map]; rfl

theorem dumpsItems_strDict (E : Ext) (l : List (String × PyVal))
    (hs : ∀ kv ∈ l, isJsonSerializable E kv.2 = true) :
    ∃ js, dumpsItems E (strDict l) = some js ∧ loadsItems js = l.map fun kv => (kv.1, reload E kv.2) := by
  induction l with
  | nil => exact ⟨[], rfl, rfl⟩
  | cons a r ih =>
    obtain ⟨js, h1, h2⟩ := ih fun kv hkv => hs kv (List.mem_cons_of_mem _ hkv)
    obtain ⟨j, hj⟩ := Option.isSome_iff_exists.mp (hs a List.mem_cons_self)
    exact ⟨(a.1, j) :: js, dumpsItems_cons E _ _ _ _ _ _ rfl hj h1,
      by rw [loadsItems_cons, h2, List.map_cons, reload_of_dumps hj]⟩

theorem dumps_loads_strDict (E : Ext) (l : List (String × PyVal)) (hk : (l.map (·.1)).Nodup)
    (hs : ∀ kv ∈ l, isJsonSerializable E kv.2 = true) :
    ∃ j, jsonDumps E (.dict (strDict l)) = some j ∧
      jsonLoads j = .dict (strDict (l.map fun kv => (kv.1, reload E kv.2))) := by
  obtain ⟨js, h1, h2⟩ := dumpsItems_strDict E l hs
  refine ⟨.obj js, jsonDumps_dict E _ js h1, ?_⟩
  rw [jsonLoads_obj, h2, dictUpdate_nil_fresh (by rwa [map_snd_keys])]

theorem lookupStr_strDict (l : List (String × PyVal)) (k : String) : lookupStr (strDict l) k = dictGet l k := by
  induction l with
  | nil => rfl
  | cons a r ih =>
    show (if some a.1 = some k then some a.2 else lookupStr (strDict r) k) =
      if a.1 = k then some a.2 else dictGet r k
    by_cases e : a.1 = k
    · rw [if_pos (congrArg some e), if_pos e]
    · rw [if_neg fun h => e (Option.some.inj h), if_neg e, ih]

theorem pickledEntry_eq (E : Ext) (v : PyVal) : pickledEntry E v =
    dictUpdate [(":type:", .str (typeStr v)), (":serialized:", .str (E.pickle v))]
      ((infoItems v).map fun kx => (keyStr E kx.1, infoValue E kx.2)) :=
  foldl_dictSet

theorem serializableData_eq (E : Ext) (d : List (String × PyVal)) :
    serializableData E d = dictUpdate [] (d.map fun kv => (kv.1, storeAttr E kv.2)) :=
  foldl_dictSet

theorem infoValue_serializable (E : Ext) (x : PyVal) : isJsonSerializable E (infoValue E x) = true := by
  unfold infoValue
  split
  · assumption
  · rfl

theorem pickledEntry_nodup (E : Ext) (v : PyVal) : ((pickledEntry E v).map (·.1)).Nodup := by
  rw [pickledEntry_eq]
  exact dictUpdate_keys_nodup (show [":type:", ":serialized:"].Nodup by simp)

theorem pickledEntry_serializable (E : Ext) (v : PyVal) :
    ∀ kv ∈ pickledEntry E v, isJsonSerializable E kv.2 = true := by
  rw [pickledEntry_eq]
  refine dictUpdate_forall (isJsonSerializable E · = true) (fun kv hkv => ?_) fun kv hkv => ?_
  · rcases hkv with _ | ⟨_, _ | ⟨_, h⟩⟩
    · rfl
    · rfl
    · cases h
  · obtain ⟨kx, _, rfl⟩ := List.mem_map.mp hkv
    exact infoValue_serializable E kx.2

theorem storeAttr_serializable (E : Ext) (v : PyVal) : isJsonSerializable E (storeAttr E v) = true := by
  unfold storeAttr
  split
  · next h => exact (Bool.and_eq_true_iff.mp h).1
  · obtain ⟨j, hj, _⟩ := dumps_loads_strDict E _ (pickledEntry_nodup E v) (pickledEntry_serializable E v)
    exact Option.isSome_iff_exists.mpr ⟨j, hj⟩

theorem serializableData_nodup (E : Ext) (d : List (String × PyVal)) :
    ((serializableData E d).map (·.1)).Nodup := by
  rw [serializableData_eq]
  exact dictUpdate_keys_nodup List.nodup_nil

theorem serializableData_serializable (E : Ext) (d : List (String × PyVal)) :
    ∀ kv ∈ serializableData E d, isJsonSerializable E kv.2 = true := by
  rw [serializableData_eq]
  refine dictUpdate_forall (isJsonSerializable E · = true) (fun _ h => nomatch h) fun kv hkv => ?_
  obtain ⟨a, _, rfl⟩ := List.mem_map.mp hkv
  exact storeAttr_serializable E a.2

theorem dataToJson_loads (E : Ext) (d : List (String × PyVal)) :
    ∃ j, dataToJson E d = some j ∧
      jsonLoads j = .dict (strDict ((serializableData E d).map fun kv => (kv.1, reload E kv.2))) :=
  dumps_loads_strDict E _ (serializableData_nodup E d) (serializableData_serializable E d)

theorem serializableData_eq_map (E : Ext) (d : List (String × PyVal)) (h : (d.map (·.1)).Nodup) :
    serializableData E d = d.map fun kv => (kv.1, storeAttr E kv.2) := by
  rw [serializableData_eq, dictUpdate_nil_fresh (by rwa [map_snd_keys])]

/-- what the round-trip theorem assumes of one attribute value -/
structure ItemOk (E : Ext) (v : PyVal) : Prop where
  wf : wfKeys v = true
  /-- needed only when the value goes through cloudpickle -/
  pickleOk : (isJsonSerializable E v && isNative v) = false → E.unpickle (E.pickle v) = .ok v
  noKey : ∀ kx ∈ infoItems v, keyStr E kx.1 ≠ ":serialized:"

theorem lookupStr_none (E : Ext) (kvs : List (PyVal × PyVal)) (k : String)
    (h : ∀ kx ∈ kvs, keyStr E kx.1 ≠ k) : lookupStr kvs k = none := by
  induction kvs with
  | nil => rfl
  | cons a r ih =>
    show (if strKey? a.1 = some k then some a.2 else lookupStr r k) = none
    rw [ih fun kx hkx => h kx (List.mem_cons_of_mem _ hkx), if_neg]
    -- a key that is the string `k` has `str()` equal to `k`
    intro e
    have := h a List.mem_cons_self
    cases ha : a.1 <;> rw [ha] at e this <;> cases e
    exact this rfl

theorem loadItem_of_not_pickled (E : Ext) (kvs : List (PyVal × PyVal))
    (h : lookupStr kvs ":serialized:" = none) : loadItem E (.dict kvs) = .keep (.dict kvs) := by
  rw [loadItem, h]

theorem loadItem_of_pickled (E : Ext) (kvs : List (PyVal × PyVal)) (s : String) (v : PyVal)
    (h : lookupStr kvs ":serialized:" = some (.str s)) (hu : E.unpickle s = .ok v) :
    loadItem E (.dict kvs) = .keep v := by
  rw [loadItem, h]; simp only; rw [hu]

theorem pickledEntry_serialized (E : Ext) (v : PyVal)
    (h : ∀ kx ∈ infoItems v, keyStr E kx.1 ≠ ":serialized:") :
    dictGet (pickledEntry E v) ":serialized:" = some (.str (E.pickle v)) := by
  rw [pickledEntry_eq, dictGet_dictUpdate_not_mem]
  · simp [dictGet]
  · intro hm
    obtain ⟨_, hm, e⟩ := List.mem_map.mp hm
    obtain ⟨kx, hkx, rfl⟩ := List.mem_map.mp hm
    exact h kx hkx e

theorem loadItem_native (E : Ext) (v : PyVal)
    (h : ∀ kx ∈ infoItems v, keyStr E kx.1 ≠ ":serialized:") (hn : isNative v = true) :
    loadItem E v = .keep v := by
  cases v with
  | dict kvs => exact loadItem_of_not_pickled E kvs (lookupStr_none E kvs _ h)
  | tuple _ => cases hn
  | obj _ _ _ _ => cases hn
  | _ => rfl

/-- one attribute through `data_to_json`, the JSON text and `json_to_data` -/
theorem codec_item (E : Ext) (v : PyVal) (h : ItemOk E v) : loadItem E (reload E (storeAttr E v)) = .keep v := by
  unfold storeAttr
  split
  · next hc =>
    have hn := (Bool.and_eq_true_iff.mp hc).2
    obtain ⟨j, h1, h2⟩ := native_rt E v hn h.wf
    rw [reload_of_dumps h1, h2]
    exact loadItem_native E v h.noKey hn
  · next hc =>
    obtain ⟨j, hj, hload⟩ := dumps_loads_strDict E _ (pickledEntry_nodup E v) (pickledEntry_serializable E v)
    rw [reload_of_dumps hj, hload]
    refine loadItem_of_pickled E _ (E.pickle v) v ?_ (h.pickleOk (Bool.not_eq_true _ ▸ hc))
    rw [lookupStr_strDict, dictGet_map_snd, pickledEntry_serialized E v h.noKey]; rfl

theorem loadItems_keep (E : Ext) (d acc : List (String × PyVal)) (hd : ∀ kv ∈ d, ItemOk E kv.2) :
    loadItems E [] (strDict (d.map fun kv => (kv.1, reload E (storeAttr E kv.2)))) acc =
      some (dictUpdate acc d) := by
  induction d generalizing acc with
  | nil => rfl
  | cons a r ih =>
    have := ih (dictSet acc a.1 a.2) fun kv hkv => hd kv (List.mem_cons_of_mem _ hkv)
    rw [List.map_cons, strDict, List.map_cons, loadItems]
    simp only [strKey?, dictGet, codec_item E a.2 (hd a List.mem_cons_self)]
    exact this

theorem itemOk_of_noSerializedKey (E : Ext) (d : List (String × PyVal)) (hwf : ∀ kv ∈ d, wfKeys kv.2 = true)
    (hpickle : ∀ kv ∈ d, (isJsonSerializable E kv.2 && isNative kv.2) = false →
      E.unpickle (E.pickle kv.2) = .ok kv.2)
    (hkey : noSerializedKey E d = true) : ∀ kv ∈ d, ItemOk E kv.2 := fun kv hkv =>
  ⟨hwf kv hkv, hpickle kv hkv, fun kx hkx =>
    bne_iff_ne.mp (List.all_eq_true.mp (List.all_eq_true.mp hkey kv hkv) kx hkx)⟩

theorem roundTrip_eq (E : Ext) (d : List (String × PyVal)) (hk : (d.map (·.1)).Nodup)
    (hd : ∀ kv ∈ d, ItemOk E kv.2) : roundTrip E [] d = some d := by
  obtain ⟨j, hj, hload⟩ := dataToJson_loads E d
  rw [roundTrip, hj]
  simp only
  rw [jsonToData, hload]
  simp only
  rw [serializableData_eq_map E d hk, List.map_map]
  exact (loadItems_keep E d [] hd).trans (congrArg some (dictUpdate_nil_fresh hk))

theorem loadItems_custom (E : Ext) (custom : List (String × PyVal)) (k : String) (c : PyVal)
    (hc : dictGet custom k = some c) (items : List (PyVal × PyVal)) (acc r : List (String × PyVal))
    (h : loadItems E custom items acc = some r) (hk : k ∈ strKeys items ∨ dictGet acc k = some c) :
    dictGet r k = some c := by
  induction items generalizing acc with
  | nil => exact Option.some.inj h ▸ hk.resolve_left List.not_mem_nil
  | cons a rest ih =>
    obtain ⟨k0, item⟩ := a
    rw [loadItems] at h
    cases hk0 : strKey? k0 with
    | none => rw [hk0] at h; cases h
    | some key =>
      rw [strKeys, List.filterMap_cons, hk0, List.mem_cons] at hk
      simp only [hk0] at h
      by_cases e : key = k
      · -- the item named `k`: `custom_objects` wins
        subst e
        simp only [hc] at h
        exact ih _ h (Or.inr (by rw [dictGet_dictSet, if_pos rfl]))
      · -- any other item leaves the entry `k` of `acc` alone
        have hk' : ∀ x, k ∈ strKeys rest ∨ dictGet (dictSet acc key x) k = some c :=
          fun x => hk.imp (·.resolve_left (Ne.symm e)) fun hk => by rwa [dictGet_dictSet, if_neg e]
        split at h
        · exact ih _ h (hk' _)
        · split at h
          · exact ih _ h (hk' _)
          · exact ih _ h (hk.imp_left (·.resolve_left (Ne.symm e)))
          · cases h

theorem mem_saveData (s : Spec) (excl incl : List String) (attrs : List (String × PyVal)) (kv : String × PyVal) :
    kv ∈ saveData s excl incl attrs ↔ kv ∈ attrs ∧ kv.1 ∉ effExclude s excl incl := by
  simp [saveData]

theorem mem_effExclude (s : Spec) (excl incl : List String) (n : String) :
    n ∈ effExclude s excl incl ↔ ((n ∈ excl ∨ n ∈ s.excluded) ∧ n ∉ incl) ∨ n ∈ torchTops s := by
  simp only [effExclude, List.mem_append, List.mem_filter, Bool.not_eq_true', List.contains_eq_mem,
    decide_eq_false_iff_not]

/-- `split(".")[0]` of `l ++ r`, where `l` has no dot and `r` is empty or begins with one. -/
theorem topName_ofList (l r : List Char) (h : ∀ c ∈ l, c ≠ '.') (hr : r.takeWhile (· != '.') = []) :
    topName (String.ofList (l ++ r)) = String.ofList l := by
  rw [topName, String.toList_ofList, List.takeWhile_append_of_pos fun c hc => bne_iff_ne.mpr (h c hc), hr,
    List.append_nil]

/-! The names of the member lists, each once. A literal is `String.ofList` of its characters by definition, whereas
`toList` of a literal decodes its bytes, which the kernel does slowly: hence the characters are written out. -/

theorem topName_policy : topName "policy" = "policy" := by
  simpa only [List.append_nil, String.reduceOfList] using
    topName_ofList ['p', 'o', 'l', 'i', 'c', 'y'] [] (by decide +kernel) rfl
theorem topName_policy_optimizer : topName "policy.optimizer" = "policy" := by
  simpa only [List.cons_append, List.nil_append, String.reduceOfList] using
    topName_ofList ['p', 'o', 'l', 'i', 'c', 'y'] ['.', 'o', 'p', 't', 'i', 'm', 'i', 'z', 'e', 'r'] (by decide +kernel) rfl
theorem topName_actor_optimizer : topName "actor.optimizer" = "actor" := by
  simpa only [List.cons_append, List.nil_append, String.reduceOfList] using
    topName_ofList ['a', 'c', 't', 'o', 'r'] ['.', 'o', 'p', 't', 'i', 'm', 'i', 'z', 'e', 'r'] (by decide +kernel) rfl
theorem topName_critic_optimizer : topName "critic.optimizer" = "critic" := by
  simpa only [List.cons_append, List.nil_append, String.reduceOfList] using
    topName_ofList ['c', 'r', 'i', 't', 'i', 'c'] ['.', 'o', 'p', 't', 'i', 'm', 'i', 'z', 'e', 'r'] (by decide +kernel) rfl
theorem topName_ent_coef_optimizer : topName "ent_coef_optimizer" = "ent_coef_optimizer" := by
  simpa only [List.append_nil, String.reduceOfList] using
    topName_ofList ['e', 'n', 't', '_', 'c', 'o', 'e', 'f', '_', 'o', 'p', 't', 'i', 'm', 'i', 'z', 'e', 'r'] [] (by decide +kernel) rfl
theorem topName_log_ent_coef : topName "log_ent_coef" = "log_ent_coef" := by
  simpa only [List.append_nil, String.reduceOfList] using
    topName_ofList ['l', 'o', 'g', '_', 'e', 'n', 't', '_', 'c', 'o', 'e', 'f'] [] (by decide +kernel) rfl
theorem topName_ent_coef_tensor : topName "ent_coef_tensor" = "ent_coef_tensor" := by
  simpa only [List.append_nil, String.reduceOfList] using
    topName_ofList ['e', 'n', 't', '_', 'c', 'o', 'e', 'f', '_', 't', 'e', 'n', 's', 'o', 'r'] [] (by decide +kernel) rfl

theorem torchTops_spec (a : Algo) : torchTops a.spec = match a with
    | .a2c | .ppo | .dqn => ["policy", "policy"]
    | .sac true => ["policy", "actor", "critic", "ent_coef_optimizer", "log_ent_coef"]
    | .sac false => ["policy", "actor", "critic", "ent_coef_tensor"]
    | .td3 | .ddpg => ["policy", "actor", "critic"] := by
  rcases a with _ | _ | _ | ⟨_ | _⟩ | _ | _ <;>
    simp only [torchTops, Algo.spec, List.map_cons, List.map_nil, List.cons_append, List.nil_append,
      List.append_nil, topName_policy, topName_policy_optimizer, topName_actor_optimizer,
      topName_critic_optimizer, topName_ent_coef_optimizer, topName_log_ent_coef, topName_ent_coef_tensor]

theorem dictGet_filterMap_names (t : Torch) (names : List String) (k : String) :
    dictGet (names.filterMap fun n => (dictGet t n).map fun v => (n, v)) k =
      if k ∈ names then dictGet t k else none := by
  induction names with
  | nil => rfl
  | cons n r ih =>
    cases h : dictGet t n with
    | none =>
      rw [List.filterMap_cons_none (by rw [h]; rfl), ih]
      by_cases e : k = n
      · subst e; simp [h]
      · simp [e]
    | some v =>
      rw [List.filterMap_cons_some (by rw [h]; rfl), dictGet, ih]
      by_cases e : n = k
      · subst e; simp [h]
      · simp [e, Ne.symm e]

theorem mem_filterMap_names (t : Torch) (names : List String) (kv : String × PyVal)
    (h : kv ∈ names.filterMap fun n => (dictGet t n).map fun v => (n, v)) : dictGet t kv.1 = some kv.2 := by
  obtain ⟨n, _, hn⟩ := List.mem_filterMap.mp h
  cases hg : dictGet t n with
  | none => rw [hg] at hn; cases hn
  | some v => rw [hg] at hn; exact Option.some.inj hn ▸ hg

theorem filterMap_names_keys (t : Torch) (names : List String) (h : ∀ n ∈ names, dictHas t n = true) :
    (names.filterMap fun n => (dictGet t n).map fun v => (n, v)).map (·.1) = names := by
  induction names with
  | nil => rfl
  | cons n r ih =>
    obtain ⟨v, hv⟩ := Option.isSome_iff_exists.mp (h n List.mem_cons_self)
    rw [List.filterMap_cons_some (by rw [hv]; rfl), List.map_cons, ih fun m hm => h m (List.mem_cons_of_mem _ hm)]

theorem sameNames_refl (a : List String) : sameNames a a = true := by
  simp [sameNames]

theorem setParameters_exact (s : Spec) (t : Torch) (params : List (String × PyVal))
    (h1 : ∀ kv ∈ params, dictHas t kv.1 = true) (h2 : sameNames (params.map (·.1)) s.stateDicts = true) :
    setParameters s t params true = some (dictUpdate t params) := by
  rw [setParameters, List.all_eq_true.mpr h1, h2]; rfl

theorem load_eq (E : Ext) (s : Spec) (a : LoadArgs) (ar : Archive) (data : List (String × PyVal)) (t : Torch)
    (hd : jsonToData E a.custom ar.data = some data) (ho : dictHas data "observation_space" = true)
    (ha : dictHas data "action_space" = true) (hp : setParameters s a.freshTorch ar.params true = some t)
    (hv : ∀ kv ∈ ar.vars, dictHas t kv.1 = true) :
    load E s a ar = some ⟨a.setup (dictUpdate (dictUpdate a.fresh
        (setIf a.envGiven (setIf (a.envGiven && a.forceReset) data "_last_obs" .none) "n_envs" (.int a.numEnvs)))
        a.kwargs), dictUpdate t ar.vars⟩ := by
  rw [load, hd]
  simp only [ho, ha, hp, List.all_eq_true.mpr hv]
  rfl

/-- what `load_save` assumes -/
structure LoadOk (E : Ext) (s : Spec) (excl incl : List String) (m : Model) (a : LoadArgs)
    (rebuilt : List String) : Prop where
  namesNodup : (m.attrs.map (·.1)).Nodup
  itemsOk : ∀ kv ∈ saveData s excl incl m.attrs, ItemOk E kv.2
  noCustom : a.custom = []
  obsSpace : dictHas (saveData s excl incl m.attrs) "observation_space" = true
  actSpace : dictHas (saveData s excl incl m.attrs) "action_space" = true
  torchNodup : (s.stateDicts ++ s.torchVars).Nodup
  torchSaved : ∀ n ∈ s.stateDicts ++ s.torchVars, dictHas m.torch n = true
  torchFresh : ∀ n ∈ s.stateDicts ++ s.torchVars, dictHas a.freshTorch n = true
  setupFrame : ∀ attrs n, n ∉ rebuilt → dictGet (a.setup attrs) n = dictGet attrs n

theorem load_save (E : Ext) (s : Spec) (excl incl : List String) (m : Model) (a : LoadArgs)
    (rebuilt : List String) (h : LoadOk E s excl incl m a rebuilt) :
    ∃ ar m', save E s excl incl m = some ar ∧ load E s a ar = some m' ∧
      (∀ n, n ∈ m.attrs.map (·.1) → n ∉ effExclude s excl incl → n ∉ rebuilt → n ∉ a.kwargs.map (·.1) →
        (a.envGiven = true → n ≠ "n_envs") → (a.envGiven = true → a.forceReset = true → n ≠ "_last_obs") →
        dictGet m'.attrs n = dictGet m.attrs n) ∧
      (∀ n ∈ s.stateDicts ++ s.torchVars, dictGet m'.torch n = dictGet m.torch n) := by
  -- the data member comes back as it was
  have hsdn : ((saveData s excl incl m.attrs).map (·.1)).Nodup := filter_keys_nodup h.namesNodup
  obtain ⟨j, hj, _⟩ := dataToJson_loads E (saveData s excl incl m.attrs)
  have hrt : jsonToData E a.custom j = some (saveData s excl incl m.attrs) := by
    have := roundTrip_eq E _ hsdn h.itemsOk
    rwa [roundTrip, hj, ← h.noCustom] at this
  -- the archive holds every state-dict and torch variable, and `load` finds a place for each
  have hpk : (getParameters s m.torch).map (·.1) = s.stateDicts :=
    filterMap_names_keys m.torch _ fun n hn => h.torchSaved n (List.mem_append_left _ hn)
  have hvk := filterMap_names_keys m.torch s.torchVars fun n hn => h.torchSaved n (List.mem_append_right _ hn)
  have hset := setParameters_exact s a.freshTorch (getParameters s m.torch)
    (fun kv hkv => h.torchFresh kv.1 (List.mem_append_left _ (hpk ▸ List.mem_map_of_mem hkv)))
    (hpk.symm ▸ sameNames_refl _)
  have hload := load_eq E s a ⟨j, getParameters s m.torch, _⟩ _ _ hrt h.obsSpace h.actSpace hset
    fun kv hkv => dictHas_dictUpdate
      (h.torchFresh kv.1 (List.mem_append_right _ (hvk ▸ List.mem_map_of_mem hkv)))
  have hnd := List.nodup_append.mp h.torchNodup
  refine ⟨_, _, by rw [save, hj], hload, fun n hn hex hrb hkw hne hlo => ?_, fun n hn => ?_⟩
  · obtain ⟨v, hv⟩ := Option.isSome_iff_exists.mp (dictHas_iff_mem.mpr hn)
    show dictGet (a.setup _) n = _
    rw [h.setupFrame _ n hrb, dictGet_dictUpdate_not_mem hkw, hv]
    refine dictGet_dictUpdate_mem (setIf_keys_nodup (setIf_keys_nodup hsdn)) ?_
    rw [dictGet_setIf hne,
      dictGet_setIf fun hc => hlo (Bool.and_eq_true_iff.mp hc).1 (Bool.and_eq_true_iff.mp hc).2,
      saveData, dictGet_filter_key (fun k => !(effExclude s excl incl).contains k) (by simpa using hex), hv]
  · obtain ⟨v, hv⟩ := Option.isSome_iff_exists.mp (h.torchSaved n hn)
    show dictGet (dictUpdate (dictUpdate a.freshTorch (getParameters s m.torch)) _) n = _
    rw [hv]
    rcases List.mem_append.mp hn with hs | hs
    · rw [dictGet_dictUpdate_not_mem (hvk.symm ▸ fun hs' => hnd.2.2 n hs n hs' rfl)]
      refine dictGet_dictUpdate_mem (hpk.symm ▸ hnd.1) ?_
      rw [getParameters, dictGet_filterMap_names, if_pos hs, hv]
    · refine dictGet_dictUpdate_mem (hvk.symm ▸ hnd.2.1) ?_
      rw [dictGet_filterMap_names, if_pos hs, hv]

theorem append_ne_self (p q : String) (h : q ≠ "") : p ++ q ≠ p := fun e =>
  h ((String.append_right_inj p).mp (e.trans String.append_empty.symm))

end SB3Verif.SaveLoad.Lemmas
