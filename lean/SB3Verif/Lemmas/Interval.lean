/-
`np.clip` and the affine rescaling between `[-1, 1]` and `[lo, hi]` (`scale_action` / `unscale_action` of
`stable_baselines3/common/policies.py`), as facts about plain expressions: the models of C04, C06 and C11 each
define their own `clip` / `unscale`, and each is one equation away from the expressions below.
-/
import Mathlib.Algebra.Order.Field.Basic

namespace SB3Verif.Lemmas.Interval

section Clip
variable {α : Type} [LinearOrder α] {x lo hi : α}

/-- `np.clip(x, lo, hi)` written with comparisons is `np.minimum(np.maximum(x, lo), hi)` -/
theorem ite_eq_min_max (x lo hi : α) :
    (if hi < (if x < lo then lo else x) then hi else if x < lo then lo else x) = min (max x lo) hi := by
  -- the inner `if` is `max x lo`, the outer one then `min hi (max x lo)`: both as defined with `<`
  rw [← max_def_lt, ← min_def_lt, min_comm]

theorem min_max_mem (x : α) (h : lo ≤ hi) : lo ≤ min (max x lo) hi ∧ min (max x lo) hi ≤ hi :=
  ⟨le_min (le_max_right _ _) h, min_le_right _ _⟩

theorem min_max_of_mem (h1 : lo ≤ x) (h2 : x ≤ hi) : min (max x lo) hi = x := by
  rw [max_eq_left h1, min_eq_left h2]

theorem min_max_of_le (h : lo ≤ hi) (hx : x ≤ lo) : min (max x lo) hi = lo := by
  rw [max_eq_right hx, min_eq_left h]

theorem min_max_of_ge (hx : hi ≤ x) : min (max x lo) hi = hi :=
  min_eq_right (hx.trans (le_max_left _ _))

end Clip

section Affine
variable {α : Type} [Field α] [LinearOrder α] [IsStrictOrderedRing α] {lo hi : α}

/-! The two affine maps bare, with no clip around them. `Lemmas.OffPolicy` and `Lemmas.Predict` have lemmas of
the same names about their models' `unscaleAction` / `unscale`, which do clip: there `unscale_mem` holds of every
`s`, and the end points and round trips ask for what keeps the clip idle (`lo ≤ hi`, `lo ≤ a ≤ hi`, `-1 ≤ s ≤ 1`)
instead of `lo ≠ hi` alone. -/

omit [LinearOrder α] [IsStrictOrderedRing α] in
theorem unscale_neg_one (lo hi : α) : lo + (-1 + 1) / 2 * (hi - lo) = lo := by
  rw [neg_add_cancel, zero_div, zero_mul, add_zero]

theorem unscale_one (lo hi : α) : lo + (1 + 1) / 2 * (hi - lo) = hi := by
  rw [one_add_one_eq_two, div_self two_ne_zero, one_mul, add_sub_cancel]

/-- `s ↦ lo + (s + 1) / 2 * (hi - lo)` is increasing (constant when `lo = hi`) -/
theorem unscale_mono (h : lo ≤ hi) {s t : α} (hst : s ≤ t) :
    lo + (s + 1) / 2 * (hi - lo) ≤ lo + (t + 1) / 2 * (hi - lo) :=
  add_le_add_right (mul_le_mul_of_nonneg_right
    (div_le_div_of_nonneg_right (add_le_add_left hst 1) zero_le_two) (sub_nonneg.2 h)) lo

/-- … and takes `-1`, `1` to `lo`, `hi`, hence `[-1, 1]` into `[lo, hi]` -/
theorem unscale_mem (h : lo ≤ hi) {s : α} (h1 : -1 ≤ s) (h2 : s ≤ 1) :
    lo ≤ lo + (s + 1) / 2 * (hi - lo) ∧ lo + (s + 1) / 2 * (hi - lo) ≤ hi :=
  ⟨(unscale_neg_one lo hi).ge.trans (unscale_mono h h1), (unscale_mono h h2).trans (unscale_one lo hi).le⟩

/-- `a ↦ 2 * ((a - lo) / (hi - lo)) - 1` is `t ↦ 2 t - 1` after a map of `[lo, hi]` into `[0, 1]`
(also when `lo = hi`: division by zero gives `0`) -/
theorem scale_mem (h : lo ≤ hi) {a : α} (h1 : lo ≤ a) (h2 : a ≤ hi) :
    -1 ≤ 2 * ((a - lo) / (hi - lo)) - 1 ∧ 2 * ((a - lo) / (hi - lo)) - 1 ≤ 1 := by
  have hd : 0 ≤ hi - lo := sub_nonneg.2 h
  have t0 : 0 ≤ (a - lo) / (hi - lo) := div_nonneg (sub_nonneg.2 h1) hd
  have t1 : (a - lo) / (hi - lo) ≤ 1 := div_le_one_of_le₀ (sub_le_sub_right h2 lo) hd
  -- subtract `1` from `0 ≤ 2 * t` and from `2 * t = t + t ≤ 1 + 1`
  exact ⟨(zero_sub 1).ge.trans (sub_le_sub_right (mul_nonneg zero_le_two t0) 1),
    (sub_le_sub_right ((two_mul _).trans_le (add_le_add t1 t1)) 1).trans (add_sub_cancel_right 1 1).le⟩

theorem unscale_scale (h : lo ≠ hi) (a : α) :
    lo + (2 * ((a - lo) / (hi - lo)) - 1 + 1) / 2 * (hi - lo) = a := by
  rw [sub_add_cancel, mul_div_cancel_left₀ _ two_ne_zero, div_mul_cancel₀ _ (sub_ne_zero.2 h.symm),
    add_sub_cancel]

theorem scale_unscale (h : lo ≠ hi) (s : α) :
    2 * ((lo + (s + 1) / 2 * (hi - lo) - lo) / (hi - lo)) - 1 = s := by
  rw [add_sub_cancel_left, mul_div_cancel_right₀ _ (sub_ne_zero.2 h.symm), mul_div_cancel₀ _ two_ne_zero,
    add_sub_cancel_right]

end Affine

end SB3Verif.Lemmas.Interval
