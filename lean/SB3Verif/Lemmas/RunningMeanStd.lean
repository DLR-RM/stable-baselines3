/-
The parallel-variance merge of `RunningMeanStd` (model: `SB3Verif/Model/RunningMeanStd.lean`).

Everything goes through the weighted power sums `(W, S₁, S₂) = (count, count·mean, count·(var+mean²))`:
the merge is plain addition there, and `(mean, var, count)` is recovered from the sums whenever `count ≠ 0`.
-/
import SB3Verif.Model.RunningMeanStd
import Mathlib.Tactic.Ring
import Mathlib.Data.Nat.Cast.Order.Ring

-- Every lemma is stated over the ordered field of the model, though most use the field operations only.
set_option linter.unusedSectionVars false

namespace SB3Verif.Lemmas.RMS

open SB3Verif.RMS

variable {α : Type} [Field α] [LinearOrder α] [IsStrictOrderedRing α]

theorem Sums.ext' : ∀ {a b : Sums α}, a.w = b.w → a.s1 = b.s1 → a.s2 = b.s2 → a = b
  | ⟨_, _, _⟩, ⟨_, _, _⟩, rfl, rfl, rfl => rfl

@[simp] theorem lsum_nil : lsum ([] : List α) = 0 := rfl
@[simp] theorem lsum_cons (x : α) (xs : List α) : lsum (x :: xs) = x + lsum xs := rfl

theorem lsum_append (xs ys : List α) : lsum (xs ++ ys) = lsum xs + lsum ys := by
  induction xs with
  | nil => exact (zero_add _).symm
  | cons x xs ih => rw [List.cons_append, lsum_cons, lsum_cons, ih, add_assoc]

theorem lsum_sq_dev (xs : List α) (m : α) :
    lsum (xs.map fun x => (x - m) * (x - m)) =
      lsum (xs.map fun x => x * x) - 2 * m * lsum xs + (xs.length : α) * m * m := by
  induction xs with
  | nil => simp
  | cons x xs ih =>
    simp only [List.map_cons, lsum_cons, ih, List.length_cons, Nat.cast_succ]
    ring

theorem lsum_sq_nonneg (xs : List α) (m : α) : 0 ≤ lsum (xs.map fun x => (x - m) * (x - m)) := by
  induction xs with
  | nil => exact le_rfl
  | cons x xs ih => exact add_nonneg (mul_self_nonneg (x - m)) ih

theorem sumsOf_append (xs ys : List α) : sumsOf (xs ++ ys) = (sumsOf xs).add (sumsOf ys) :=
  Sums.ext' (by simp only [sumsOf, Sums.add, List.length_append, Nat.cast_add]) (lsum_append xs ys)
    (by simp only [sumsOf, Sums.add, List.map_append, lsum_append])

theorem Sums.add_assoc' (a b c : Sums α) : (a.add b).add c = a.add (b.add c) := by
  simp only [Sums.add, add_assoc]

theorem Sums.add_sumsOf_nil (a : Sums α) : a.add (sumsOf []) = a := by
  simp only [Sums.add, sumsOf, List.length_nil, Nat.cast_zero, List.map_nil, lsum_nil, add_zero]

theorem toMom_toSums (m : Mom α) (h : m.count ≠ 0) : m.toSums.toMom = m := by
  obtain ⟨m, v, c⟩ := m
  unfold Mom.toSums Sums.toMom
  dsimp only
  rw [mul_div_cancel_right₀ m h, mul_div_cancel_right₀ _ h, add_sub_cancel_right]

theorem eq_of_toSums_eq {a b : Mom α} (ha : a.count ≠ 0) (hb : b.count ≠ 0) (h : a.toSums = b.toSums) : a = b := by
  rw [← toMom_toSums a ha, h, toMom_toSums b hb]

theorem toSums_momentsOf (xs : List α) : (momentsOf xs).toSums = sumsOf xs := by
  rcases eq_or_ne (xs.length : α) 0 with hN | hN
  · -- only the empty batch: every sum is `0`, and so is `0 / 0`
    obtain rfl : xs = [] := List.length_eq_zero_iff.mp (Nat.cast_eq_zero.mp hN)
    exact Sums.ext' rfl (mul_eq_zero_of_right _ Nat.cast_zero) (mul_eq_zero_of_right _ Nat.cast_zero)
  · have hm : batchMean xs * xs.length = lsum xs := div_mul_cancel₀ _ hN
    refine Sums.ext' rfl hm ?_
    show (batchVar xs + batchMean xs * batchMean xs) * xs.length = lsum (xs.map fun x => x * x)
    rw [add_mul, batchVar, div_mul_cancel₀ _ hN, lsum_sq_dev, ← hm]
    ring

theorem toSums_updateFromMoments (s : Mom α) (bm bv bc : α) (h : s.count + bc ≠ 0) :
    (updateFromMoments s bm bv bc).toSums = s.toSums.add ⟨bc, bm * bc, (bv + bm * bm) * bc⟩ := by
  obtain ⟨m, v, c⟩ := s
  change c + bc ≠ 0 at h
  unfold updateFromMoments Mom.toSums Sums.add
  dsimp only
  generalize hμ : m + (bm - m) * bc / (c + bc) = μ
  -- the new mean times the new count
  have h1 : μ * (c + bc) = m * c + bm * bc := by
    rw [← hμ, add_mul, div_mul_cancel₀ _ h]; ring
  -- Lagrange's identity for the two weighted means, divided by the new count
  have h2 : (bm - m) * (bm - m) * c * bc / (c + bc) + μ * (m * c + bm * bc) = m * m * c + bm * bm * bc := by
    rw [eq_div_of_mul_eq h h1, div_mul_eq_mul_div, ← add_div, div_eq_iff h]; ring
  rw [add_comm bc c]
  refine Sums.ext' rfl h1 ?_
  rw [add_mul, div_mul_cancel₀ _ h, mul_assoc μ μ, h1, add_assoc, h2]
  ring

theorem count_update (s : Mom α) (xs : List α) : (update s xs).count = (xs.length : α) + s.count := rfl

theorem count_update_pos (s : Mom α) (xs : List α) (h : 0 < s.count) : 0 < (update s xs).count :=
  add_pos_of_nonneg_of_pos (Nat.cast_nonneg _) h

/-- (the code forms the new count as `batch_count + count` but divides by `count + batch_count`) -/
theorem toSums_update (s : Mom α) (xs : List α) (h : (update s xs).count ≠ 0) :
    (update s xs).toSums = s.toSums.add (sumsOf xs) :=
  (toSums_updateFromMoments s _ _ _ ((add_comm ..).trans_ne h)).trans (congrArg s.toSums.add (toSums_momentsOf xs))

/-- Both sides have the non-zero count `|A| + |B|` and equal power sums. -/
theorem update_momentsOf (A B : List α) (h : A ++ B ≠ []) : update (momentsOf A) B = momentsOf (A ++ B) := by
  have hN : ((A ++ B).length : α) ≠ 0 := Nat.cast_ne_zero.mpr (List.length_pos_iff.mpr h).ne'
  have hU : (update (momentsOf A) B).count ≠ 0 := by
    rwa [List.length_append, Nat.cast_add, add_comm] at hN
  refine eq_of_toSums_eq hU hN ?_
  rw [toSums_momentsOf, sumsOf_append, ← toSums_momentsOf A]
  exact toSums_update _ B hU

theorem updateAll_nil (s : Mom α) : updateAll s [] = s := rfl
theorem updateAll_cons (s : Mom α) (b : List α) (bs : List (List α)) :
    updateAll s (b :: bs) = updateAll (update s b) bs := rfl

theorem updateAll_append (s : Mom α) (as bs : List (List α)) :
    updateAll s (as ++ bs) = updateAll (updateAll s as) bs :=
  List.foldl_append

theorem toSums_updateAll (s : Mom α) (bs : List (List α)) (h : 0 < s.count) :
    (updateAll s bs).toSums = s.toSums.add (sumsOf bs.flatten) := by
  induction bs generalizing s with
  | nil => rw [updateAll_nil, List.flatten_nil, Sums.add_sumsOf_nil]
  | cons b bs ih =>
    have hb := count_update_pos s b h
    rw [updateAll_cons, ih _ hb, toSums_update s b hb.ne', List.flatten_cons, sumsOf_append, Sums.add_assoc']

end SB3Verif.Lemmas.RMS
