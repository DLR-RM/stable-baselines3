/-
Lemmas on the on-policy collection model `SB3Verif/Model/OnPolicy.lean`: the loop of `collect_rollouts` by its
first iteration, the collected buffer as input of the GAE closed form, clipping and unscaling of actions
(instances of `Lemmas/Interval.lean`).
-/
import SB3Verif.Model.OnPolicy
import SB3Verif.Lemmas.Rollout
import SB3Verif.Lemmas.Interval

namespace SB3Verif.OnPolicy.Lemmas

open SB3Verif.OnPolicy

section loop
variable {O A α : Type} [Add α] [Mul α]

theorem collectRollout_cons (γ : α) (V : O → α) (f : A → A) (c : Carry O) (x : StepIn O A α)
    (xs : List (StepIn O A α)) :
    collectRollout γ V f c (x :: xs) =
      { rows := slotOf γ V c x :: (collectRollout γ V f (carryOf x) xs).rows
        envActs := (fun e => f (x.sample e).action) :: (collectRollout γ V f (carryOf x) xs).envActs
        lastValues := (collectRollout γ V f (carryOf x) xs).lastValues
        lastDones := (collectRollout γ V f (carryOf x) xs).lastDones
        carry := (collectRollout γ V f (carryOf x) xs).carry } := by
  unfold collectRollout
  rw [List.getLast?_cons]
  cases xs.getLast? <;> rfl

/-- The state seen by step `t` of a rollout: element `t` of `c :: xs.map carryOf`. -/
theorem collectRollout_rows (γ : α) (V : O → α) (f : A → A) (c : Carry O) (xs : List (StepIn O A α)) :
    (collectRollout γ V f c xs).rows = List.zipWith (slotOf γ V) (c :: xs.map carryOf) xs := by
  induction xs generalizing c with
  | nil => rfl
  | cons x xs ih => exact congrArg (_ :: ·) (ih (carryOf x))

theorem collectRollout_envActs (γ : α) (V : O → α) (f : A → A) (c : Carry O) (xs : List (StepIn O A α)) :
    (collectRollout γ V f c xs).envActs = xs.map (fun x e => f (x.sample e).action) := by
  induction xs generalizing c with
  | nil => rfl
  | cons x xs ih => exact congrArg (_ :: ·) (ih (carryOf x))

theorem collectRollout_carry (γ : α) (V : O → α) (f : A → A) (c : Carry O) (xs : List (StepIn O A α)) :
    (collectRollout γ V f c xs).carry = (xs.getLast?.map carryOf).getD c := by
  induction xs generalizing c with
  | nil => rfl
  | cons x xs ih =>
    rw [collectRollout_cons, List.getLast?_cons]
    exact (ih (carryOf x)).trans (by cases xs.getLast? <;> rfl)

theorem collectRollout_rows_length (γ : α) (V : O → α) (f : A → A) (c : Carry O) (xs : List (StepIn O A α)) :
    (collectRollout γ V f c xs).rows.length = xs.length := by
  induction xs generalizing c with
  | nil => rfl
  | cons x xs ih => exact congrArg Nat.succ (ih (carryOf x))

theorem rowCarry_slotOf (γ : α) (V : O → α) (p : Carry O) (x : StepIn O A α) :
    rowCarry (slotOf γ V p x) = p := rfl

theorem rows_rowCarry (γ : α) (V : O → α) (f : A → A) (c : Carry O) (xs : List (StepIn O A α)) :
    (collectRollout γ V f c xs).rows.map rowCarry = (c :: xs.map carryOf).take xs.length := by
  induction xs generalizing c with
  | nil => rfl
  | cons x xs ih => exact congrArg (c :: ·) (ih (carryOf x))

/-- Cutting a list of successive states after a prefix: the second part starts from the last state of the
first. -/
theorem take_map_append {β δ : Type} (g : β → δ) (c : δ) (l m : List β) :
    (c :: (l ++ m).map g).take (l ++ m).length =
      (c :: l.map g).take l.length ++ ((l.getLast?.map g).getD c :: m.map g).take m.length := by
  induction l generalizing c with
  | nil => rfl
  | cons a l ih =>
    rw [List.getLast?_cons]
    exact (congrArg (c :: ·) (ih (g a))).trans (by cases l.getLast? <;> rfl)

end loop

section gae
open SB3Verif.Rollout
variable {α : Type} [CommRing α]

/-- The advantage of the last stored step is its TD residual against the supplied last value. -/
theorem gaeCol_snoc_getLast (γ lam lv ln : α) (ss : List (Step α)) (s : Step α) :
    (gaeCol γ lam lv ln (ss ++ [s])).getLast? = some (s.r + γ * lv * ln - s.v) := by
  induction ss with
  | nil =>
    show some (delta γ s lv ln + γ * lam * ln * 0) = _
    rw [mul_zero, add_zero]; rfl
  | cons a rest ih => rw [List.cons_append, SB3Verif.Lemmas.gaeCol_cons, List.getLast?_cons, ih]; rfl

end gae

section compose
open SB3Verif.Rollout
variable {O A α : Type} [CommRing α]

/-- What GAE takes as `next_values` / `next_non_terminal` in front of a whole collected rollout is the
value / `1 - episode start` of the state the rollout started from: the first row if there is one,
`last_values` / `dones` (the carried state itself) if there is none. -/
theorem nextOf_collected (γ : α) (V : O → α) (f : A → A) (c : Carry O) (xs : List (StepIn O A α)) (e : ℕ) :
    nextOf ((collectRollout γ V f c xs).lastValues e) (1 - boolS ((collectRollout γ V f c xs).lastDones e))
        (gaeSteps (collectRollout γ V f c xs).rows e) =
      (V (c.lastObs e), 1 - boolS (c.lastStarts e)) := by
  cases xs <;> rfl

theorem steps_length (γ : α) (V : O → α) (f : A → A) (c : Carry O) (xs : List (StepIn O A α)) (e : ℕ) :
    (gaeSteps (collectRollout γ V f c xs).rows e).length = xs.length :=
  (List.length_map _).trans (collectRollout_rows_length γ V f c xs)

theorem nntAt_collected (γ : α) (V : O → α) (f : A → A) (c : Carry O) (xs : List (StepIn O A α)) (e k : ℕ)
    (hk : k < xs.length) :
    nntAt ((collectRollout γ V f c xs).lastValues e) (1 - boolS ((collectRollout γ V f c xs).lastDones e))
        (gaeSteps (collectRollout γ V f c xs).rows e) k = 1 - boolS (doneAt xs e k) := by
  induction xs generalizing c k with
  | nil => cases hk
  | cons x xs ih =>
    simp only [collectRollout_cons]
    cases k with
    | zero => exact congrArg Prod.snd (nextOf_collected γ V f (carryOf x) xs e)
    | succ k => exact ih (carryOf x) k (Nat.lt_of_succ_lt_succ hk)

theorem deltaAt_collected (γ : α) (V : O → α) (f : A → A) (c : Carry O) (xs : List (StepIn O A α)) (e k : ℕ) :
    deltaAt γ ((collectRollout γ V f c xs).lastValues e) (1 - boolS ((collectRollout γ V f c xs).lastDones e))
        (gaeSteps (collectRollout γ V f c xs).rows e) k = tdAt γ V c xs e k := by
  induction xs generalizing c k with
  | nil => cases k <;> rfl
  | cons x xs ih =>
    simp only [collectRollout_cons]
    cases k with
    | zero =>
      refine (SB3Verif.Lemmas.deltaAt_cons_zero γ _ _ _
        (gaeSteps (collectRollout γ V f (carryOf x) xs).rows e)).trans ?_
      rw [nextOf_collected γ V f (carryOf x) xs e]; rfl
    | succ k => exact ih (carryOf x) k

omit [CommRing α] in
theorem doneAt_of_getElem? (xs : List (StepIn O A α)) (e k : ℕ) (x : StepIn O A α) (hx : xs[k]? = some x) :
    doneAt xs e k = (x.out e).done := by
  unfold doneAt; rw [hx]

/-- At an episode end the successor observation belongs to the next episode and does not enter. -/
theorem tdAt_of_done (γ : α) (V : O → α) (c : Carry O) (xs : List (StepIn O A α)) (e k : ℕ) (p : Carry O)
    (x : StepIn O A α) (hp : (c :: xs.map carryOf)[k]? = some p) (hx : xs[k]? = some x)
    (hd : (x.out e).done = true) :
    tdAt γ V c xs e k = rewardOf γ V (x.out e) - V (p.lastObs e) := by
  simp only [tdAt, hp, hx, hd, boolS, if_true, sub_self, mul_zero, add_zero]

end compose

section clip
variable {α : Type} [LinearOrder α]

-- this model's `clip a lo hi` is `min (max a lo) hi` as written: no equation stands between it and `Interval`
theorem clip_mem (a lo hi : α) (h : lo ≤ hi) : lo ≤ clip a lo hi ∧ clip a lo hi ≤ hi :=
  SB3Verif.Lemmas.Interval.min_max_mem a h

end clip

/-- `unscale_action` with `half = 1/2`, as an expression of `Lemmas/Interval.lean` -/
theorem envScalar_unscale {α : Type} [Field α] [LinearOrder α] (a lo hi : α) :
    envScalar .unscale 2⁻¹ a lo hi = min (max (lo + (a + 1) / 2 * (hi - lo)) lo) hi := by
  show min (max (lo + 2⁻¹ * (a + 1) * (hi - lo)) lo) hi = _
  rw [inv_mul_eq_div]

end SB3Verif.OnPolicy.Lemmas
