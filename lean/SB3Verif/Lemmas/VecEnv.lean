/-
Lemmas for C01 (model: `SB3Verif/Model/VecEnv.lean`). Core Lean only.

The model states the per-environment rule of a step three times: `Dummy.stepEnv`, `Worker.step` and the specification
`EnvSpec.apply`. `apply_step` and `worker_step` put the last two in one closed form; `stepEnv_eq` shows the loop body of
`DummyVecEnv.step_wait` to be a write of the specification's answer into row `i` of the staging buffers. A loop that
writes rows `0, 1, …` of a buffer leaves the list of the written values (`writeFrom_full`), so on well-formed states the
Dummy loops return `map`s over the answers (`dummy_stepWait_eq`, `dummy_reset_eq`), the form the Subproc side has by
definition. `step_at` / `reset_at` then describe row `i` of `Vec.step` / `Vec.reset` for both implementations at once;
`applyT_refines` and `run_refines` (one operation, whole histories) are assembled from them. Behind them stand what a
history does to one sub-environment's pending seed and options (`proj_pending`, the `specRun_*` lemmas about
`EnvSpec.run`), the info dictionary read key by key (`stepInfo_*`) and the keyed observation buffers (`saveAll_rows`).
-/
import SB3Verif.Model.VecEnv

namespace SB3Verif.VecEnvLemmas
open SB3Verif.VecEnv

variable {ω ρ : Type}

/-- the answer of the automatic reset: given exactly when the step ends an episode (inside the model's domain) -/
def autoReset (x : StepResp ω ρ) : Option (ResetRes ω) := if x.raw.done then x.rst else none

/-- calls a sub-environment receives during one vectorised step -/
def stepCalls (a : Int) (x : StepResp ω ρ) : List Call :=
  if x.raw.done then [Call.step a, Call.reset none none] else [Call.step a]

theorem apply_step (e : EnvSpec ω) (a : Int) (x : StepResp ω ρ) :
    e.apply (EnvOp.step a x) =
      ({ e with resetInfo := ((autoReset x).map (·.info)).getD e.resetInfo },
       { obs := some (((autoReset x).map (·.obs)).getD x.raw.obs), rew := some x.raw.rew, done := some x.raw.done,
         info := some (stepInfo x.raw), resetInfo := ((autoReset x).map (·.info)).getD e.resetInfo,
         calls := stepCalls a x }) := by
  unfold EnvSpec.apply autoReset stepCalls
  cases hd : x.raw.done
  · simp [hd]
  · cases hr : x.rst <;> simp [hd, hr]

theorem worker_step (w : Worker ω) (a : Int) (x : StepResp ω ρ) :
    w.step a x =
      ({ resetInfo := ((autoReset x).map (·.info)).getD w.resetInfo },
       { obs := ((autoReset x).map (·.obs)).getD x.raw.obs, rew := x.raw.rew, done := x.raw.done, info := stepInfo x.raw,
         resetInfo := ((autoReset x).map (·.info)).getD w.resetInfo }, stepCalls a x) := by
  unfold Worker.step autoReset stepCalls
  cases hd : x.raw.done
  · simp [hd]
  · cases x.rst <;> simp [hd]

theorem spec_step_basic (e : EnvSpec ω) (a : Int) (x : StepResp ω ρ) :
    (e.apply (EnvOp.step a x)).2.done = some x.raw.done ∧ (e.apply (EnvOp.step a x)).2.rew = some x.raw.rew ∧
    (e.apply (EnvOp.step a x)).2.info = some (stepInfo x.raw) := by
  rw [apply_step]; exact ⟨rfl, rfl, rfl⟩

theorem apply_step_state (e : EnvSpec ω) (a : Int) (x : StepResp ω ρ) :
    (e.apply (EnvOp.step a x)).1 = { e with resetInfo := (e.apply (EnvOp.step a x)).2.resetInfo } := by
  rw [apply_step]

theorem apply_step_out_congr (e e' : EnvSpec ω) (h : e.resetInfo = e'.resetInfo) (a : Int) (x : StepResp ω ρ) :
    (e.apply (EnvOp.step a x)).2 = (e'.apply (EnvOp.step a x)).2 := by
  rw [apply_step, apply_step, h]

theorem spec_step_cont (e : EnvSpec ω) (a : Int) (x : StepResp ω ρ) (h : x.raw.done = false) :
    (e.apply (EnvOp.step a x)).2.obs = some x.raw.obs ∧ (e.apply (EnvOp.step a x)).2.resetInfo = e.resetInfo ∧
    (e.apply (EnvOp.step a x)).2.calls = [Call.step a] := by
  simp [apply_step, autoReset, stepCalls, h]

theorem spec_step_end (e : EnvSpec ω) (a : Int) (x : StepResp ω ρ) (z : ResetRes ω) (h : x.raw.done = true)
    (hr : x.rst = some z) :
    (e.apply (EnvOp.step a x)).2.obs = some z.obs ∧ (e.apply (EnvOp.step a x)).2.resetInfo = z.info ∧
    (e.apply (EnvOp.step a x)).2.calls = [Call.step a, Call.reset none none] := by
  simp [apply_step, autoReset, stepCalls, h, hr]

theorem worker_step_coherent (w : Worker ω) (a : Int) (x : StepResp ω ρ) :
    (w.step a x).2.1.resetInfo = (w.step a x).1.resetInfo := by
  rw [worker_step]

/-! DummyVecEnv: one pass of the loop body is a write of the specification's answer into row `i` -/

/-- `(Vec.dummy s).abs i` (`abs_dummy`), written with the `Dummy`'s own fields: the lemmas about the loops of
`DummyVecEnv` speak of a `Dummy`, before the sum type `Vec` and the matches of its projections come in -/
def dAbs (s : Dummy ω ρ) (i : Nat) : EnvSpec ω :=
  { idx := i, resetInfo := s.resetInfos.getD i [], seed := (s.seeds[i]?).join, opts := s.options.getD i [] }

/-- the specification's answer (new state, output) to the step that pass `i` of the loop of `step_wait` makes
sub-environment `i` take: the action is the one `step_async` stored -/
def dummyAnswer (s : Dummy ω ρ) (i : Nat) (x : StepResp ω ρ) : EnvSpec ω × EnvOut ω ρ :=
  (dAbs s i).apply (EnvOp.step (s.actions.getD i 0) x)

theorem set_getD_self {α : Type} (l : List α) (i : Nat) (d : α) : l.set i (l[i]?.getD d) = l := by
  by_cases h : i < l.length
  · simp [h]
  · exact List.set_eq_of_length_le (Nat.le_of_not_lt h)

/-- When no reset happens the specification answers the row's previous reset info, so the write to `resetInfos` is
the identity (`set_getD_self`) and all three branches of the loop body have one form. -/
theorem stepEnv_eq (s : Dummy ω ρ) (i : Nat) (x : StepResp ω ρ) :
    s.stepEnv i x =
      ({ s with bufObs := s.bufObs.set i (dummyAnswer s i x).2.obs, bufRews := s.bufRews.set i (some x.raw.rew),
                bufDones := s.bufDones.set i x.raw.done, bufInfos := s.bufInfos.set i (stepInfo x.raw),
                resetInfos := s.resetInfos.set i (dummyAnswer s i x).2.resetInfo }, (dummyAnswer s i x).2.calls) := by
  unfold Dummy.stepEnv dummyAnswer
  rw [apply_step]
  unfold dAbs autoReset stepCalls
  cases hd : x.raw.done
  · simp [hd, set_getD_self]
  · cases x.rst <;> simp [hd, set_getD_self]

/-- `l[k], l[k+1], … = vs`: what a loop `for i in range(k, …): l[i] = vs[i - k]` leaves in `l` -/
def writeFrom {β : Type} (l : List β) (k : Nat) : List β → List β
  | [] => l
  | v :: vs => writeFrom (l.set k v) (k + 1) vs

theorem writeFrom_eq {β : Type} (vs : List β) : ∀ (l : List β) (k : Nat), k + vs.length = l.length →
    writeFrom l k vs = l.take k ++ vs := by
  induction vs with
  | nil =>
    -- nothing is written, and `k = l.length`: `l.take k` is all of `l`
    intro l k h
    rw [writeFrom, List.append_nil, List.take_of_length_le (i := k) (Nat.le_of_eq h.symm)]
  | cons v vs ih =>
    intro l k h
    have hk : k < l.length := h ▸ Nat.lt_add_of_pos_right (Nat.succ_pos _)
    -- the write of `v` at `k` leaves the first `k` entries and puts `v` behind them …
    have hset : (l.set k v).take (k + 1) = l.take k ++ [v] := by
      rw [List.take_add_one, List.getElem?_set_self hk, List.take_set_of_le (Nat.le_refl k)]; rfl
    -- … and the remaining values are written from `k + 1` on
    rw [writeFrom, ih (l.set k v) (k + 1) ((Nat.add_right_comm k 1 _).trans (h.trans (List.length_set ..).symm)), hset,
      List.append_assoc]; rfl

/-- a loop that writes every slot leaves exactly the written values -/
theorem writeFrom_full {β : Type} (l vs : List β) (h : vs.length = l.length) : writeFrom l 0 vs = vs :=
  writeFrom_eq vs l 0 ((Nat.zero_add _).trans h)

/-- `step_async` only stores the actions -/
theorem stepAsync_wf {s : Dummy ω ρ} (h : s.WF) (acts : List Int) : (s.stepAsync acts).WF :=
  ⟨h.hObs, h.hRews, h.hDones, h.hInfos, h.hReset, h.hSeeds, h.hOpts⟩

theorem dummyAnswer_other (s : Dummy ω ρ) (i j : Nat) (hij : i ≠ j) (x y : StepResp ω ρ) :
    dummyAnswer (s.stepEnv i x).1 j y = dummyAnswer s j y := by
  rw [stepEnv_eq]
  simp only [dummyAnswer, dAbs, List.getD_eq_getElem?_getD, List.getElem?_set_ne hij]

theorem stepLoop_cons (s : Dummy ω ρ) (k : Nat) (x : StepResp ω ρ) (rest : List (StepResp ω ρ)) :
    s.stepLoop k (x :: rest) =
      (((s.stepEnv k x).1.stepLoop (k + 1) rest).1, (s.stepEnv k x).2 :: ((s.stepEnv k x).1.stepLoop (k + 1) rest).2) :=
  rfl

/-- the specification's answers to the steps `xs` of the sub-environments `k, k+1, …` of `s` -/
def answers (s : Dummy ω ρ) (k : Nat) (xs : List (StepResp ω ρ)) : List (EnvOut ω ρ) :=
  (xs.zipIdx k).map fun t => (dummyAnswer s t.2 t.1).2

/-- pass `k` of the loop does not change what the later sub-environments will be answered -/
theorem answers_stepEnv (s : Dummy ω ρ) (k : Nat) (x : StepResp ω ρ) (xs : List (StepResp ω ρ)) :
    answers (s.stepEnv k x).1 (k + 1) xs = answers s (k + 1) xs :=
  List.map_congr_left fun t ht => congrArg (·.2)
    (dummyAnswer_other s k t.2 (Nat.ne_of_lt (List.le_snd_of_mem_zipIdx ht)) x t.1)

theorem answers_length (s : Dummy ω ρ) (k : Nat) (xs : List (StepResp ω ρ)) : (answers s k xs).length = xs.length :=
  (List.length_map _).trans List.length_zipIdx

theorem answers_getElem? (s : Dummy ω ρ) (xs : List (StepResp ω ρ)) (i : Nat) (x : StepResp ω ρ) (hx : xs[i]? = some x) :
    (answers s 0 xs)[i]? = some (dummyAnswer s i x).2 := by
  simp only [answers, List.getElem?_map, List.getElem?_zipIdx, hx, Option.map_some, Nat.zero_add]

theorem stepLoop_eq (xs : List (StepResp ω ρ)) : ∀ (s : Dummy ω ρ) (k : Nat),
    s.stepLoop k xs =
      ({ s with bufObs := writeFrom s.bufObs k ((answers s k xs).map (·.obs)),
                bufRews := writeFrom s.bufRews k (xs.map (some ·.raw.rew)),
                bufDones := writeFrom s.bufDones k (xs.map (·.raw.done)),
                bufInfos := writeFrom s.bufInfos k (xs.map (stepInfo ·.raw)),
                resetInfos := writeFrom s.resetInfos k ((answers s k xs).map (·.resetInfo)) },
       (answers s k xs).map (·.calls)) := by
  induction xs with
  | nil => exact fun _ _ => rfl
  | cons x rest ih =>
    intro s k
    rw [stepLoop_cons, ih, answers_stepEnv, stepEnv_eq]
    rfl

/-- On a well-formed state `DummyVecEnv.step_wait` has the form of `SubprocVecEnv.step_wait`: every array is a `map`
over the answers. -/
theorem dummy_stepWait_eq (s : Dummy ω ρ) (hwf : s.WF) (xs : List (StepResp ω ρ)) (hx : xs.length = s.n) :
    s.stepWait xs =
      ({ s with bufObs := (answers s 0 xs).map (·.obs), bufRews := xs.map (some ·.raw.rew),
                bufDones := xs.map (·.raw.done), bufInfos := xs.map (stepInfo ·.raw),
                resetInfos := (answers s 0 xs).map (·.resetInfo) },
       { obs := (answers s 0 xs).map (·.obs), rews := xs.map (some ·.raw.rew), dones := xs.map (·.raw.done),
         infos := xs.map (stepInfo ·.raw), resetInfos := (answers s 0 xs).map (·.resetInfo),
         calls := (answers s 0 xs).map (·.calls) }) := by
  have ha {β : Type} (g : _ → β) : ((answers s 0 xs).map g).length = s.n :=
    (List.length_map g).trans ((answers_length s 0 xs).trans hx)
  have hm {β : Type} (g : _ → β) : (xs.map g).length = s.n := (List.length_map g).trans hx
  unfold Dummy.stepWait
  rw [stepLoop_eq, writeFrom_full _ _ ((ha _).trans hwf.hObs.symm), writeFrom_full _ _ ((hm _).trans hwf.hRews.symm),
    writeFrom_full _ _ ((hm _).trans hwf.hDones.symm), writeFrom_full _ _ ((hm _).trans hwf.hInfos.symm),
    writeFrom_full _ _ ((ha _).trans hwf.hReset.symm)]

/-! SubprocVecEnv: the workers' replies are a map over the zipped workers, actions and answers -/

/-- `(Vec.subproc p).abs i` (`abs_subproc`), written with the `Subproc`'s own fields like `dAbs` -/
def pAbs (p : Subproc ω ρ) (i : Nat) : EnvSpec ω :=
  { idx := i, resetInfo := p.resetInfos.getD i [], seed := (p.seeds[i]?).join, opts := p.options.getD i [] }

theorem abs_dummy (s : Dummy ω ρ) (i : Nat) : (Vec.dummy s).abs i = dAbs s i := rfl
theorem abs_subproc (p : Subproc ω ρ) (i : Nat) : (Vec.subproc p).abs i = pAbs p i := rfl

theorem workersStep_eq (ws : List (Worker ω)) (as : List Int) (xs : List (StepResp ω ρ)) :
    workersStep ws as xs = (ws.zip (as.zip xs)).map fun t => t.1.step t.2.1 t.2.2 := by
  induction ws generalizing as xs with
  | nil => rfl
  | cons w ws ih =>
    cases as with
    | nil => rfl
    | cons a as =>
      cases xs with
      | nil => rfl
      | cons x xs => exact congrArg (w.step a x :: ·) (ih as xs)

theorem zip_getElem? {α β : Type} {l : List α} {m : List β} {i : Nat} {a : α} {b : β} (h1 : l[i]? = some a)
    (h2 : m[i]? = some b) : (l.zip m)[i]? = some (a, b) :=
  List.getElem?_zip_eq_some.mpr ⟨h1, h2⟩

theorem workersStep_getElem? {ws : List (Worker ω)} {as : List Int} {xs : List (StepResp ω ρ)} {i : Nat}
    {w : Worker ω} {a : Int} {x : StepResp ω ρ} (hw : ws[i]? = some w) (ha : as[i]? = some a) (hx : xs[i]? = some x) :
    (workersStep ws as xs)[i]? = some (w.step a x) := by
  rw [workersStep_eq, List.getElem?_map, zip_getElem? hw (zip_getElem? ha hx)]; rfl

theorem workersStep_length (ws : List (Worker ω)) (as : List Int) (xs : List (StepResp ω ρ)) :
    (workersStep ws as xs).length = min ws.length (min as.length xs.length) := by
  simp only [workersStep_eq, List.length_map, List.length_zip]

theorem valid_step {n : Nat} {acts : List Int} {xs : List (StepResp ω ρ)} (h : (Op.step acts xs).valid n = true) :
    acts.length = n ∧ xs.length = n := by
  simp only [Op.valid, Bool.and_eq_true, beq_iff_eq] at h
  exact h.1

theorem abs_update (v v' : Vec ω ρ) (i : Nat) (ri : Info ω) (h1 : v'.resetInfos[i]? = some ri)
    (h2 : v'.seeds = v.seeds) (h3 : v'.options = v.options) : v'.abs i = { v.abs i with resetInfo := ri } := by
  simp only [Vec.abs, List.getD_eq_getElem?_getD, h1, h2, h3, Option.getD_some]

theorem step_wf (v : Vec ω ρ) (hwf : v.WF) (acts : List Int) (xs : List (StepResp ω ρ))
    (hv : (Op.step acts xs).valid v.n = true) :
    (v.step acts xs).1.WF ∧ (v.step acts xs).1.n = v.n ∧
    (v.step acts xs).2.obs.length = v.n ∧ (v.step acts xs).2.rews.length = v.n ∧
    (v.step acts xs).2.dones.length = v.n ∧ (v.step acts xs).2.infos.length = v.n ∧
    (v.step acts xs).2.resetInfos.length = v.n ∧ (v.step acts xs).2.calls.length = v.n := by
  obtain ⟨hla, hlx⟩ := valid_step hv
  cases v with
  | dummy d =>
    have ha {β : Type} (g : _ → β) : ((answers (d.stepAsync acts) 0 xs).map g).length = d.n :=
      (List.length_map g).trans ((answers_length _ 0 xs).trans hlx)
    have hm {β : Type} (g : _ → β) : (xs.map g).length = d.n := (List.length_map g).trans hlx
    simp only [Vec.step, dummy_stepWait_eq _ (stepAsync_wf hwf acts) xs hlx]
    exact ⟨⟨ha _, hm _, hm _, hm _, ha _, hwf.hSeeds, hwf.hOpts⟩, rfl, ha _, hm _, hm _, hm _, ha _, ha _⟩
  | subproc p =>
    -- everything is a `map` over the replies, one per worker
    have hres : (workersStep p.workers (acts.take p.n) xs).length = p.n := by
      have h1 : p.workers.length = p.n := hwf.hWorkers
      have ha : acts.length = p.n := hla
      have hx : xs.length = p.n := hlx
      simp only [workersStep_length, List.length_take, h1, ha, hx, Nat.min_self]
    refine ⟨⟨(List.length_map _).trans hres, ?_, hwf.hSeeds, hwf.hOpts⟩, rfl, ?_⟩
    · simp only [Subproc.stepAsync, workersStep_eq, List.map_map]
      exact List.map_congr_left fun t _ => worker_step_coherent ..
    · simp only [Vec.step, Subproc.stepWait, Subproc.stepAsync, Vec.n, List.length_map, hres, and_self]

/-- row `i` of a step's result `r` (new state, output) is the specification's answer `e` (new state, output) -/
structure StepRow (r : Vec ω ρ × Out ω ρ) (i : Nat) (e : EnvSpec ω × EnvOut ω ρ) : Prop where
  obs : r.2.obs[i]? = some e.2.obs
  rew : r.2.rews[i]? = some e.2.rew
  done : r.2.dones[i]? = e.2.done
  info : r.2.infos[i]? = e.2.info
  resetInfo : r.2.resetInfos[i]? = some e.2.resetInfo
  calls : r.2.calls[i]? = some e.2.calls
  stateResetInfo : r.1.resetInfos[i]? = some e.2.resetInfo
  abs : r.1.abs i = e.1

theorem step_at (v : Vec ω ρ) (hwf : v.WF) (acts : List Int) (xs : List (StepResp ω ρ))
    (hv : (Op.step acts xs).valid v.n = true) (i : Nat) (a : Int) (x : StepResp ω ρ)
    (ha : acts[i]? = some a) (hx : xs[i]? = some x) :
    StepRow (v.step acts xs) i ((v.abs i).apply (EnvOp.step a x)) := by
  have hi : i < v.n := (valid_step hv).1 ▸ (List.getElem?_eq_some_iff.1 ha).1
  cases v with
  | dummy d =>
    have hans := answers_getElem? (d.stepAsync acts) xs i x hx
    have hexp : dummyAnswer (d.stepAsync acts) i x = (dAbs d i).apply (EnvOp.step a x) := by
      simp only [dummyAnswer, Dummy.stepAsync, List.getD_eq_getElem?_getD, ha, Option.getD_some]; rfl
    rw [hexp, apply_step] at hans
    have m {β : Type} (g : EnvOut ω ρ → β) := (List.getElem?_map (f := g) ..).trans (congrArg (Option.map g) hans)
    have mx {β : Type} (g : StepResp ω ρ → β) := (List.getElem?_map (f := g) ..).trans (congrArg (Option.map g) hx)
    simp only [Vec.step, dummy_stepWait_eq _ (stepAsync_wf hwf acts) xs (valid_step hv).2]
    rw [apply_step]
    exact ⟨m _, mx _, mx _, mx _, m _, m _, m _, abs_update (.dummy d) _ i _ (m (·.resetInfo)) rfl rfl⟩
  | subproc p =>
    have hi' : i < p.n := hi
    have h1 : p.workers.length = p.n := hwf.hWorkers
    obtain ⟨w, hw⟩ : ∃ w, p.workers[i]? = some w := ⟨_, List.getElem?_eq_getElem (h1.symm ▸ hi')⟩
    have hri : (pAbs p i).resetInfo = w.resetInfo := by
      simp only [pAbs, List.getD_eq_getElem?_getD, hwf.hCoherent, List.getElem?_map, hw, Option.map_some, Option.getD_some]
    have ha' : (acts.take p.n)[i]? = some a := by rw [List.getElem?_take_of_lt hi', ha]
    have hres := workersStep_getElem? hw ha' hx
    rw [worker_step, ← hri] at hres
    -- every returned array, and the new `reset_infos`, is a `map` over the replies
    have s5 : ((Vec.subproc p).step acts xs).1.resetInfos[i]? = _ :=
      (List.getElem?_map ..).trans (congrArg (Option.map _) hres)
    rw [apply_step]
    refine ⟨?_, ?_, ?_, ?_, s5, ?_, s5, abs_update (.subproc p) ((Vec.subproc p).step acts xs).1 i _ s5 rfl rfl⟩ <;>
      exact (List.getElem?_map ..).trans (congrArg (Option.map _) hres)

theorem resetEnv_calls (s : Dummy ω ρ) (i : Nat) (z : ResetRes ω) :
    (s.resetEnv i z).2 = [Call.reset (dAbs s i).seed (maybeOptions (dAbs s i).opts)] := by
  simp only [Dummy.resetEnv, dAbs, List.getD_eq_getElem?_getD]
  cases s.seeds[i]? <;> rfl

theorem resetLoop_cons (s : Dummy ω ρ) (k : Nat) (z : ResetRes ω) (rest : List (ResetRes ω)) :
    s.resetLoop k (z :: rest) =
      (((s.resetEnv k z).1.resetLoop (k + 1) rest).1, (s.resetEnv k z).2 :: ((s.resetEnv k z).1.resetLoop (k + 1) rest).2) :=
  rfl

theorem resetLoop_eq (zs : List (ResetRes ω)) : ∀ (s : Dummy ω ρ) (k : Nat),
    s.resetLoop k zs =
      ({ s with resetInfos := writeFrom s.resetInfos k (zs.map (·.info)),
                bufObs := writeFrom s.bufObs k (zs.map (some ·.obs)) },
       (List.range' k zs.length).map fun i => [Call.reset (dAbs s i).seed (maybeOptions (dAbs s i).opts)]) := by
  induction zs with
  | nil => exact fun _ _ => rfl
  | cons z rest ih => exact fun s k => (resetLoop_cons s k z rest).trans (by rw [ih, resetEnv_calls]; rfl)

/-- On a well-formed state `DummyVecEnv.reset` has the form of `SubprocVecEnv.reset`: every array is a `map` over
the answers. -/
theorem dummy_reset_eq (d : Dummy ω ρ) (hwf : d.WF) (zs : List (ResetRes ω)) (hz : zs.length = d.n) :
    d.reset zs =
      ({ d with resetInfos := zs.map (·.info), bufObs := zs.map (some ·.obs), seeds := List.replicate d.n none,
                options := List.replicate d.n [] },
       { obs := zs.map (some ·.obs), resetInfos := zs.map (·.info),
         calls := (List.range' 0 zs.length).map fun i => [Call.reset (dAbs d i).seed (maybeOptions (dAbs d i).opts)] }) := by
  unfold Dummy.reset
  rw [resetLoop_eq, writeFrom_full _ _ ((List.length_map _).trans (hz.trans hwf.hReset.symm)),
    writeFrom_full _ _ ((List.length_map _).trans (hz.trans hwf.hObs.symm))]

theorem workersReset_eq (ws : List (Worker ω)) (ss : List (Option Int)) (os : List Opts) (zs : List (ResetRes ω)) :
    workersReset ws ss os zs = (ws.zip (ss.zip (os.zip zs))).map fun t => t.1.reset t.2.1 t.2.2.1 t.2.2.2 := by
  induction ws generalizing ss os zs with
  | nil => rfl
  | cons w ws ih =>
    cases ss with
    | nil => rfl
    | cons s ss =>
      cases os with
      | nil => rfl
      | cons o os =>
        cases zs with
        | nil => rfl
        | cons z zs => exact congrArg (w.reset s o z :: ·) (ih ss os zs)

theorem workersReset_getElem? {ws : List (Worker ω)} {ss : List (Option Int)} {os : List Opts} {zs : List (ResetRes ω)}
    {i : Nat} {w : Worker ω} {s : Option Int} {o : Opts} {z : ResetRes ω} (hw : ws[i]? = some w) (hs : ss[i]? = some s)
    (ho : os[i]? = some o) (hz : zs[i]? = some z) : (workersReset ws ss os zs)[i]? = some (w.reset s o z) := by
  rw [workersReset_eq, List.getElem?_map, zip_getElem? hw (zip_getElem? hs (zip_getElem? ho hz))]; rfl

theorem workersReset_length (ws : List (Worker ω)) (ss : List (Option Int)) (os : List Opts) (zs : List (ResetRes ω)) :
    (workersReset ws ss os zs).length = min ws.length (min ss.length (min os.length zs.length)) := by
  simp only [workersReset_eq, List.length_map, List.length_zip]

theorem reset_wf (v : Vec ω ρ) (hwf : v.WF) (zs : List (ResetRes ω)) (hz : zs.length = v.n) :
    (v.reset zs).1.WF ∧ (v.reset zs).1.n = v.n ∧
    (v.reset zs).2.obs.length = v.n ∧ (v.reset zs).2.resetInfos.length = v.n ∧ (v.reset zs).2.calls.length = v.n := by
  cases v with
  | dummy d =>
    have hm {β : Type} (g : _ → β) : (zs.map g).length = d.n := (List.length_map g).trans hz
    simp only [Vec.reset, dummy_reset_eq d hwf zs hz]
    exact ⟨⟨hm _, hwf.hRews, hwf.hDones, hwf.hInfos, hm _, List.length_replicate, List.length_replicate⟩, rfl, hm _, hm _,
      (List.length_map _).trans (List.length_range'.trans hz)⟩
  | subproc p =>
    have hz' : zs.length = p.n := hz
    have hres : (workersReset p.workers p.seeds p.options zs).length = p.n := by
      simp only [workersReset_length, hwf.hWorkers, hwf.hSeeds, hwf.hOpts, hz', Nat.min_self]
    refine ⟨⟨(List.length_map _).trans hres, ?_, List.length_replicate, List.length_replicate⟩, rfl, ?_⟩
    · simp only [workersReset_eq, List.map_map]
      rfl
    · simp only [Vec.reset, Subproc.reset, Vec.n, List.length_map, hres, and_self]

theorem reset_at (v : Vec ω ρ) (hwf : v.WF) (zs : List (ResetRes ω)) (hz : zs.length = v.n) (i : Nat)
    (z : ResetRes ω) (hzi : zs[i]? = some z) :
    (v.reset zs).2.obs[i]? = some (some z.obs) ∧
    (v.reset zs).2.resetInfos[i]? = some z.info ∧
    (v.reset zs).2.calls[i]? = some [Call.reset (v.abs i).seed (maybeOptions (v.abs i).opts)] ∧
    (v.reset zs).1.abs i = { idx := i, resetInfo := z.info, seed := none, opts := [] } := by
  have hi : i < v.n := hz ▸ (List.getElem?_eq_some_iff.1 hzi).1
  cases v with
  | dummy d =>
    have hi' : i < d.n := hi
    -- by `dummy_reset_eq` the returned arrays and the new `reset_infos` are `map`s over `zs`, the calls a `map` over the
    -- indices, the new pending seeds and options `replicate`s: read row `i` of each
    simp only [Vec.reset, dummy_reset_eq d hwf zs hz, Vec.abs, Vec.resetInfos, Vec.seeds, Vec.options,
      List.getD_eq_getElem?_getD, List.getElem?_map, hzi, Option.map_some, hz, List.getElem?_range' hi, hi',
      List.getElem?_replicate, if_true, Option.getD_some, Option.join_some, Nat.zero_add, Nat.one_mul, dAbs, and_self]
  | subproc p =>
    have hi' : i < p.n := hi
    obtain ⟨w, hw⟩ : ∃ w, p.workers[i]? = some w := ⟨_, List.getElem?_eq_getElem (hwf.hWorkers.symm ▸ hi')⟩
    obtain ⟨s, hs⟩ : ∃ s, p.seeds[i]? = some s := ⟨_, List.getElem?_eq_getElem (hwf.hSeeds.symm ▸ hi')⟩
    obtain ⟨o, ho⟩ : ∃ o, p.options[i]? = some o := ⟨_, List.getElem?_eq_getElem (hwf.hOpts.symm ▸ hi')⟩
    -- row `i` of the workers' replies is `w.reset s o z`, called with `i`'s pending seed `s` and options `o`
    -- (`workersReset_getElem?`); every returned array, and the new `reset_infos`, is a `map` over the replies, the new
    -- pending seeds and options `replicate`s: read row `i` of each
    simp only [Vec.reset, Subproc.reset, Vec.abs, Vec.resetInfos, Vec.seeds, Vec.options, List.getD_eq_getElem?_getD,
      List.getElem?_map, workersReset_getElem? hw hs ho hzi, Option.map_some, Worker.reset, hs, ho,
      List.getElem?_replicate, hi', if_true, Option.getD_some, Option.join_some, and_self]

theorem seedList_getElem? (n : Nat) (s : Int) (i : Nat) (hi : i < n) : (seedList n s)[i]? = some (some (s + (i : Int))) := by
  simp [seedList, hi]

theorem seedList_length (n : Nat) (s : Int) : (seedList n s).length = n := by simp [seedList]

theorem setOptionsList_length (n : Nat) (o : OptArg) (h : (Op.setOptions o : Op ω ρ).valid n = true) :
    (setOptionsList n o).length = n := by
  cases o <;> simp_all [setOptionsList, Op.valid]

theorem setOptionsList_proj (n : Nat) (o : OptArg) (h : (Op.setOptions o : Op ω ρ).valid n = true) (i : Nat) (hi : i < n) :
    (Op.setOptions o : Op ω ρ).proj i = EnvOp.setOptions ((setOptionsList n o).getD i []) := by
  cases o with
  | list l =>
    have hl : l.length = n := by simpa only [Op.valid, beq_iff_eq] using h
    simp only [Op.proj, setOptionsList, List.getD_eq_getElem?_getD, List.getElem?_eq_getElem (hl ▸ hi), Option.getD_some]
  | _ =>
    simp only [Op.proj, setOptionsList, List.getD_eq_getElem?_getD, List.getElem?_replicate, hi, if_true, Option.getD_some]

theorem applyT_refines (v : Vec ω ρ) (hwf : v.WF) (op : Op ω ρ) (hv : op.valid v.n = true) :
    (v.applyT op).1.WF ∧ (v.applyT op).1.n = v.n ∧
    ∀ i, i < v.n → (v.applyT op).2.proj i = ((v.abs i).apply (op.proj i)).2 ∧
      (v.applyT op).1.abs i = ((v.abs i).apply (op.proj i)).1 := by
  cases op with
  | seed s =>
    cases v
    all_goals
      refine ⟨{ hwf with hSeeds := seedList_length _ _ }, rfl, fun i hi => ?_⟩
      dsimp only [Vec.n, Vec.applyT, Vec.seed, Op.proj, EnvSpec.apply, Out.proj, Vec.abs, Vec.seeds] at hi ⊢
      rw [seedList_getElem? _ s i hi]
      exact ⟨rfl, rfl⟩
  | setOptions o =>
    have ho := setOptionsList_proj (ρ := ρ) v.n o hv
    cases v
    all_goals
      refine ⟨{ hwf with hOpts := setOptionsList_length (ρ := ρ) _ _ hv }, rfl, fun i hi => ?_⟩
      rw [ho i hi]
      dsimp only [Vec.applyT, Vec.setOptions, EnvSpec.apply, Out.proj, Vec.abs, Vec.options]
      exact ⟨rfl, rfl⟩
  | reset zs =>
    have hz : zs.length = v.n := eq_of_beq hv
    refine ⟨(reset_wf v hwf zs hz).1, (reset_wf v hwf zs hz).2.1, fun i hi => ?_⟩
    obtain ⟨z, hzi⟩ : ∃ z, zs[i]? = some z := ⟨_, List.getElem?_eq_getElem (hz.symm ▸ hi)⟩
    obtain ⟨r1, r2, r3, r4⟩ := reset_at v hwf zs hz i z hzi
    dsimp only [Vec.applyT, Op.proj, Out.proj]
    rw [hzi, r1, r2, r3, r4]
    -- the fields a reset does not return are empty
    cases v <;> exact ⟨rfl, rfl⟩
  | step acts xs =>
    obtain ⟨hla, hlx⟩ := valid_step hv
    obtain ⟨w1, w2, _⟩ := step_wf v hwf acts xs hv
    refine ⟨w1, w2, fun i hi => ?_⟩
    obtain ⟨a, ha⟩ : ∃ a, acts[i]? = some a := ⟨_, List.getElem?_eq_getElem (hla.symm ▸ hi)⟩
    obtain ⟨x, hx⟩ : ∃ x, xs[i]? = some x := ⟨_, List.getElem?_eq_getElem (hlx.symm ▸ hi)⟩
    have r := step_at v hwf acts xs hv i a x ha hx
    simp only [Op.proj, ha, hx]
    refine ⟨?_, r.abs⟩
    simp only [Vec.applyT, Out.proj, r.obs, r.rew, r.done, r.info, r.resetInfo, r.calls, apply_step]
    -- a step returns no seeds
    cases v <;> rfl

theorem init_wf (k : Kind) (n : Nat) : (Vec.init k n : Vec ω ρ).WF := by
  cases k
  · constructor <;> simp [Dummy.init]
  · constructor <;> simp [Subproc.init]

theorem init_n (k : Kind) (n : Nat) : (Vec.init k n : Vec ω ρ).n = n := by cases k <;> rfl

theorem init_abs (k : Kind) (n i : Nat) (hi : i < n) : (Vec.init k n : Vec ω ρ).abs i = EnvSpec.init i := by
  cases k <;>
    simp [Vec.init, Vec.abs, Vec.resetInfos, Vec.seeds, Vec.options, Dummy.init, Subproc.init, EnvSpec.init, List.getD, hi]

theorem run_refines (ops : List (Op ω ρ)) : ∀ (v : Vec ω ρ), v.WF → (∀ op ∈ ops, op.valid v.n = true) →
    (v.run ops).WF ∧ (v.run ops).n = v.n ∧
    ∀ i, i < v.n → (v.outs ops).map (Out.proj i) = (v.abs i).outs (ops.map (Op.proj i)) ∧
      (v.run ops).abs i = (v.abs i).run (ops.map (Op.proj i)) := by
  induction ops with
  | nil => intro v h _; exact ⟨h, rfl, fun i _ => ⟨rfl, rfl⟩⟩
  | cons op ops ih =>
    intro v hwf hval
    obtain ⟨w1, w2, w3⟩ := applyT_refines v hwf op (hval op (by simp))
    obtain ⟨r1, r2, r3⟩ := ih (v.applyT op).1 w1 (fun o ho => by rw [w2]; exact hval o (by simp [ho]))
    refine ⟨r1, r2.trans w2, fun i hi => ?_⟩
    obtain ⟨a1, a2⟩ := w3 i hi
    obtain ⟨b1, b2⟩ := r3 i (by rw [w2]; exact hi)
    constructor
    · simp only [Vec.outs, List.map_cons, EnvSpec.outs, a1, ← a2, b1]
    · simp only [Vec.run, List.foldl_cons, List.map_cons, EnvSpec.run] at b2 ⊢
      rw [← a2]; exact b2

theorem reset_after_run (v : Vec ω ρ) (hwf : v.WF) (ops : List (Op ω ρ)) (hops : ∀ op ∈ ops, op.valid v.n = true)
    (zs : List (ResetRes ω)) (hz : zs.length = v.n) (i : Nat) (hi : i < v.n) :
    ((v.run ops).reset zs).2.calls[i]? =
      some [Call.reset ((v.abs i).run (ops.map (Op.proj i))).seed
        (maybeOptions ((v.abs i).run (ops.map (Op.proj i))).opts)] := by
  obtain ⟨r1, r2, r3⟩ := run_refines ops v hwf hops
  obtain ⟨z, hzi⟩ : ∃ z, zs[i]? = some z := ⟨_, List.getElem?_eq_getElem (hz.symm ▸ hi)⟩
  rw [← (r3 i hi).2]
  exact (reset_at (v.run ops) r1 zs (hz.trans r2.symm) i z hzi).2.2.1

theorem specRun_cons (e : EnvSpec ω) (op : EnvOp ω ρ) (ops : List (EnvOp ω ρ)) :
    e.run (op :: ops) = (e.apply op).1.run ops := rfl

/-- Only `seed` and `reset` touch a sub-environment's pending seed, only `set_options` and `reset` its pending options:
every other operation keeps them, and a `reset` that reaches the sub-environment clears them. -/
theorem proj_pending (op : Op ω ρ) (i : Nat) (e : EnvSpec ω) :
    (op.isSeed = false →
      (e.apply (op.proj i)).1.seed = e.seed ∨ op.isReset = true ∧ (e.apply (op.proj i)).1.seed = none) ∧
    (op.isSetOptions = false →
      (e.apply (op.proj i)).1.opts = e.opts ∨ op.isReset = true ∧ (e.apply (op.proj i)).1.opts = []) := by
  cases op with
  | seed s => exact ⟨nofun, fun _ => .inl rfl⟩
  | setOptions o =>
    refine ⟨fun _ => .inl ?_, nofun⟩
    cases o with
    | list l => dsimp only [Op.proj]; cases l[i]? <;> rfl
    | _ => rfl
  | reset zs =>
    dsimp only [Op.proj]
    cases zs[i]? with
    | none => exact ⟨fun _ => .inl rfl, fun _ => .inl rfl⟩
    | some z => exact ⟨fun _ => .inr ⟨rfl, rfl⟩, fun _ => .inr ⟨rfl, rfl⟩⟩
  | step acts xs =>
    dsimp only [Op.proj]
    cases acts[i]? with
    | none => exact ⟨fun _ => .inl rfl, fun _ => .inl rfl⟩
    | some a =>
      cases xs[i]? with
      | none => exact ⟨fun _ => .inl rfl, fun _ => .inl rfl⟩
      | some x => exact ⟨fun _ => .inl (by rw [apply_step_state]), fun _ => .inl (by rw [apply_step_state])⟩

theorem specRun_invariant (i : Nat) (Q : EnvSpec ω → Prop) (P : Op ω ρ → Prop)
    (hP : ∀ op e, P op → Q e → Q (e.apply (op.proj i)).1) (mid : List (Op ω ρ)) :
    ∀ e, Q e → (∀ op ∈ mid, P op) → Q (e.run (mid.map (Op.proj i))) := by
  induction mid with
  | nil => intro e h _; exact h
  | cons op ops ih =>
    intro e he h
    exact ih _ (hP op e (h op List.mem_cons_self) he) fun o ho => h o (List.mem_cons_of_mem _ ho)

theorem specRun_keeps_seed (mid : List (Op ω ρ)) (i : Nat) (e : EnvSpec ω)
    (h : ∀ op ∈ mid, op.isSeed = false ∧ op.isReset = false) : (e.run (mid.map (Op.proj i))).seed = e.seed := by
  refine specRun_invariant i (·.seed = e.seed) _ (fun op e' hop he' => ?_) mid e rfl h
  -- `op` is no `seed`, so it keeps the pending seed or is a `reset`; and it is no `reset`
  obtain hkeep | ⟨hreset, _⟩ := (proj_pending op i e').1 hop.1
  · exact hkeep.trans he'
  · exact absurd (hop.2.symm.trans hreset) Bool.false_ne_true

theorem specRun_keeps_opts (mid : List (Op ω ρ)) (i : Nat) (e : EnvSpec ω)
    (h : ∀ op ∈ mid, op.isSetOptions = false ∧ op.isReset = false) : (e.run (mid.map (Op.proj i))).opts = e.opts := by
  refine specRun_invariant i (·.opts = e.opts) _ (fun op e' hop he' => ?_) mid e rfl h
  obtain hkeep | ⟨hreset, _⟩ := (proj_pending op i e').2 hop.1
  · exact hkeep.trans he'
  · exact absurd (hop.2.symm.trans hreset) Bool.false_ne_true

theorem specRun_seed_none (mid : List (Op ω ρ)) (i : Nat) (e : EnvSpec ω) (he : e.seed = none)
    (h : ∀ op ∈ mid, op.isSeed = false) : (e.run (mid.map (Op.proj i))).seed = none :=
  specRun_invariant i (·.seed = none) _ (fun op e' hop he' => ((proj_pending op i e').1 hop).elim (·.trans he') (·.2))
    mid e he h

theorem specRun_opts_empty (mid : List (Op ω ρ)) (i : Nat) (e : EnvSpec ω) (he : e.opts = [])
    (h : ∀ op ∈ mid, op.isSetOptions = false) : (e.run (mid.map (Op.proj i))).opts = [] :=
  specRun_invariant i (·.opts = []) _ (fun op e' hop he' => ((proj_pending op i e').2 hop).elim (·.trans he') (·.2))
    mid e he h

theorem vec_resetInfos_abs (v : Vec ω ρ) (i : Nat) (hi : i < v.resetInfos.length) :
    v.resetInfos[i]? = some (v.abs i).resetInfo := by
  simp [Vec.abs, List.getD, List.getElem?_eq_getElem hi]

theorem wf_resetInfos_length (v : Vec ω ρ) (hwf : v.WF) : v.resetInfos.length = v.n := by
  cases v with
  | dummy d => exact hwf.hReset
  | subproc p => exact (congrArg List.length hwf.hCoherent).trans ((List.length_map ..).trans hwf.hWorkers)

theorem wf_seeds_length (v : Vec ω ρ) (hwf : v.WF) : v.seeds.length = v.n := by
  cases v with
  | dummy d => exact hwf.hSeeds
  | subproc p => exact hwf.hSeeds

theorem wf_options_length (v : Vec ω ρ) (hwf : v.WF) : v.options.length = v.n := by
  cases v with
  | dummy d => exact hwf.hOpts
  | subproc p => exact hwf.hOpts

theorem getD_singleton {α : Type} (o : Option (List α)) (c : α) (h : o.getD [] = [c]) : o = some [c] := by
  cases o with
  | none => simp at h
  | some l => simpa using h

theorem proj_rew {o : Out ω ρ} {i : Nat} {x : ρ} (h : (o.proj i).rew = some x) (hl : i < o.rews.length) :
    o.rews[i]? = some (some x) := by
  simp only [Out.proj] at h
  rw [List.getElem?_eq_getElem hl] at h ⊢
  cases hh : o.rews[i] <;> simp_all

/-! The info dictionary: `dictSet` writes one key and leaves the others, so `stepInfo` can be read key by key -/

theorem dictGet_dictSet_self {β : Type} (d : List (String × β)) (k : String) (v : β) :
    dictGet (dictSet d k v) k = some v := by
  induction d with
  | nil => simp [dictSet, dictGet]
  | cons kv rest ih =>
    obtain ⟨k', v'⟩ := kv
    by_cases h : k' = k
    · simp [dictSet, dictGet, h]
    · simp [dictSet, dictGet, h, ih]

theorem dictGet_dictSet_other {β : Type} (d : List (String × β)) (k k2 : String) (v : β) (h : k2 ≠ k) :
    dictGet (dictSet d k v) k2 = dictGet d k2 := by
  induction d with
  | nil => simp [dictSet, dictGet, Ne.symm h]
  | cons kv rest ih =>
    obtain ⟨k', v'⟩ := kv
    by_cases h1 : k' = k
    · subst h1
      simp [dictSet, dictGet, Ne.symm h]
    · by_cases h2 : k' = k2
      · subst h2
        simp [dictSet, dictGet, h]
      · simp [dictSet, dictGet, h1, h2, ih]

theorem dictSet_keys {β : Type} (d : List (String × β)) (k : String) (v : β) :
    (dictSet d k v).map (·.1) = if k ∈ d.map (·.1) then d.map (·.1) else d.map (·.1) ++ [k] := by
  induction d with
  | nil => rfl
  | cons kv rest ih =>
    by_cases h : kv.1 = k
    · simp only [dictSet, h, if_true, List.map_cons, List.mem_cons, true_or]
    · have h' : ¬ k = kv.1 := fun e => h e.symm
      simp only [dictSet, h, if_false, List.map_cons, List.mem_cons, h', false_or, ih]
      split <;> rfl

theorem dictSet_keys_nodup {β : Type} (d : List (String × β)) (k : String) (v : β) (h : (d.map (·.1)).Nodup) :
    ((dictSet d k v).map (·.1)).Nodup := by
  rw [dictSet_keys]
  split
  · exact h
  · next hk => exact List.nodup_append.mpr ⟨h, List.nodup_cons.mpr ⟨List.not_mem_nil, List.nodup_nil⟩, fun a ha b hb => by
      cases List.mem_singleton.mp hb; exact fun e => hk (e ▸ ha)⟩

theorem keys_ne : ("TimeLimit.truncated" : String) ≠ "terminal_observation" := by simp

theorem stepInfo_truncated (r : Raw ω ρ) :
    dictGet (stepInfo r) "TimeLimit.truncated" = some (Val.bool (r.truncated && !r.terminated)) := by
  unfold stepInfo
  split
  · rw [dictGet_dictSet_other _ _ _ _ keys_ne, dictGet_dictSet_self]
  · rw [dictGet_dictSet_self]

theorem stepInfo_terminal (r : Raw ω ρ) (h : r.done = true) :
    dictGet (stepInfo r) "terminal_observation" = some (Val.obs r.obs) := by
  simp [stepInfo, h, dictGet_dictSet_self]

theorem stepInfo_no_terminal (r : Raw ω ρ) (h : r.done = false) :
    dictGet (stepInfo r) "terminal_observation" = dictGet r.info "terminal_observation" := by
  simp only [stepInfo, h]
  exact dictGet_dictSet_other _ _ _ _ keys_ne.symm

theorem stepInfo_other (r : Raw ω ρ) (k : String) (h1 : k ≠ "TimeLimit.truncated") (h2 : k ≠ "terminal_observation") :
    dictGet (stepInfo r) k = dictGet r.info k := by
  unfold stepInfo
  split
  · rw [dictGet_dictSet_other _ _ _ _ h2, dictGet_dictSet_other _ _ _ _ h1]
  · rw [dictGet_dictSet_other _ _ _ _ h1]

section Layout
variable {κ α : Type}

theorem save_shape (b : ObsBuf κ α) (keys : List κ) (n : Nat) (h : b.Shape keys n) (i : Nat) (obs : κ → α) :
    (b.save i obs).Shape keys n := by
  obtain ⟨h1, h2⟩ := h
  constructor
  · simp only [ObsBuf.save, List.map_map, Function.comp_def]
    exact h1
  · intro kc hk
    simp only [ObsBuf.save, List.mem_map] at hk
    obtain ⟨kc', hm, rfl⟩ := hk
    simp [h2 kc' hm]

theorem save_row_self (b : ObsBuf κ α) (keys : List κ) (n : Nat) (h : b.Shape keys n) (i : Nat) (hi : i < n)
    (obs : κ → α) : (b.save i obs).row i = ownObs keys obs := by
  obtain ⟨h1, h2⟩ := h
  subst h1
  simp only [ObsBuf.save, ObsBuf.row, ownObs, List.map_map]
  apply List.map_congr_left
  intro kc hm
  have : i < kc.2.length := by rw [h2 kc hm]; exact hi
  simp [this]

theorem save_row_other (b : ObsBuf κ α) (i j : Nat) (hij : j ≠ i) (obs : κ → α) :
    (b.save i obs).row j = b.row j := by
  simp only [ObsBuf.save, ObsBuf.row, List.map_map]
  apply List.map_congr_left
  intro kc _
  have : ¬ i = j := fun h => hij h.symm
  simp [this]

theorem saveAll_rows (l : List (κ → α)) : ∀ (b : ObsBuf κ α) (keys : List κ) (n k : Nat), b.Shape keys n →
    k + l.length ≤ n →
    (b.saveAll k l).Shape keys n ∧ (∀ j, j < k → (b.saveAll k l).row j = b.row j) ∧
    (∀ j o, l[j]? = some o → (b.saveAll k l).row (k + j) = ownObs keys o) := by
  induction l with
  | nil => intro b keys n k h _; exact ⟨h, fun _ _ => rfl, fun _ _ h => nomatch h⟩
  | cons o rest ih =>
    intro b keys n k h hlen
    have hk : k < n := Nat.lt_of_lt_of_le (Nat.lt_add_of_pos_right (Nat.succ_pos _)) hlen
    obtain ⟨i1, i2, i3⟩ := ih (b.save k o) keys n (k + 1) (save_shape b keys n h k o)
      (Nat.le_trans (Nat.le_of_eq (Nat.add_right_comm k 1 _)) hlen)
    refine ⟨i1, fun j hj => ?_, fun j o' ho' => ?_⟩
    · exact (i2 j (Nat.lt_succ_of_lt hj)).trans (save_row_other b k j (Nat.ne_of_lt hj) o)
    · cases j with
      | zero =>
        cases Option.some.inj ho'
        exact (i2 k (Nat.lt_succ_self k)).trans (save_row_self b keys n h k hk o)
      | succ j => exact (Nat.add_right_comm k 1 j) ▸ i3 j o' ho'

end Layout

end SB3Verif.VecEnvLemmas
